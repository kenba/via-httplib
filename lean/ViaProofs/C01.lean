import ViaProofs.Frag.Compose
import ViaProofs.C05
import ViaProofs.Rx.Stage
import ViaProofs.Rx.Closed
/-
  C01 / C02 — requests are delivered (or rejected) identically however their bytes are fragmented.

  `Frag/*.lean` proves the sequential-composition law for every incremental parser.  This file lifts it to
  `request_receiver::receive` and to the per-read loop of `http_server::receive_handler`:

  * `RR.receive_head_seq`      a read that ends inside the request head only advances the parser: the next
                               read continues exactly where a single read of both would be;
  * `RR.receive_head_fail_seq` a syntax / limit error in the head is reported with the same verdict and status
                               whatever follows it in the read (so the verdict cannot depend on the cut);
  * `RR.receive_body_seq`      the same for a Content-Length body in progress;
  * `RR.feedHead_flatten_false` the naive per-call statement is FALSE (witness at the theorem): when the head is
                               completed strictly inside an earlier part, the checks made right after the head
                               (411, Expect, body length) see a different buffer in the single read.
                               `RR.feedHead_flatten'` / `RR.feedHead_flatten_open` carry the hypothesis that makes it
                               true: for every partition of the bytes into reads in which the head is not completed
                               strictly before the last part, feeding the parts one by one gives the result of the
                               single read;
  * `C01_frag`                 full statement on the server loop: for every byte stream whose single-read run is
                               clean (no INVALID, everything consumed) every partition into reads delivers the same
                               requests and chunks to the application.

  `C01_frag` is the second half of `Rcv.Splits.frag` (`Rx/Loop.lean`; its first half: no division into reads is
  rejected either) for the request receiver: `C01.splits` supplies the reachable-state invariant (`C01.Inv`, over
  `RR.Ok` of `C05.lean`), the one-call law `C01.split`, and `C01.Sim`: the two runs may differ in the response code and
  in the interim 100-continue (whether it is sent for a Content-Length body depends on the cut); `payload` counts the
  VALID and CHUNK deliveries only, so neither shows in it.
-/
namespace Via

namespace C01

theorem RQ_parse_valid (cfg : Cfg) (q : RQ) (buf : Bytes) (hv : q.valid = false) :
    (RQ.parse cfg q buf).1.valid = (RQ.parse cfg q buf).2.2 :=
  (RQ.laws cfg).flag q buf hv

theorem RQ_not_done (q : RQ) (hd : RQ.done q = false) :
    q.valid = false ∧ RQ.fail q = false := by
  simpa [RQ.done_eq] using hd

end C01

theorem RR.receive_head_seq (cfg : Cfg) (r : RR) (a b : Bytes)
    (hv : r.request.valid = false) (hd : RQ.done r.request = false)
    (hinc : RQ.done (RQ.parse cfg r.request a).1 = false ∧ (RQ.parse cfg r.request a).2.1 = []) :
    RR.receive cfg r a = ({ r with request := (RQ.parse cfg r.request a).1 }, [], .incomplete) ∧
    RR.receive cfg r (a ++ b) = RR.receive cfg { r with request := (RQ.parse cfg r.request a).1 } b := by
  obtain ⟨hv1, hf1⟩ := C01.RQ_not_done _ hinc.1
  have hp := (C01.RQ_parse_valid cfg r.request a hv).symm.trans hv1
  have hseq := (RQ.laws cfg).seq r.request a b hv (C01.RQ_not_done _ hd).2
  simp only [hp, hf1, hinc.2, List.isEmpty_nil, Bool.not_true, Bool.or_self, Bool.false_eq_true, if_false] at hseq
  rw [RR.receive_head cfg r a hv, RR.receive_head cfg r (a ++ b) hv, RR.receive_head cfg _ b hv1, hseq]
  simp [hp, hinc.2, hf1]

theorem RR.receive_head_fail_seq (cfg : Cfg) (r : RR) (a b : Bytes)
    (hv : r.request.valid = false) (hd : RQ.done r.request = false)
    (hfail : (RQ.parse cfg r.request a).2.2 = false ∧
             ((RQ.parse cfg r.request a).1.fail = true ∨ (RQ.parse cfg r.request a).2.1 ≠ [])) :
    (RR.receive cfg r a).2.2 = .invalid ∧
    RR.receive cfg r (a ++ b) = ((RR.receive cfg r a).1, (RR.receive cfg r a).2.1 ++ b, .invalid) := by
  obtain ⟨h1, h2⟩ := hfail
  have hcond : (RQ.parse cfg r.request a).2.1 ≠ [] ∨ (RQ.parse cfg r.request a).1.fail = true := h2.symm
  have hcond' : (RQ.parse cfg r.request a).2.1 ++ b ≠ [] ∨ (RQ.parse cfg r.request a).1.fail = true :=
    hcond.imp (fun h e => h (List.append_eq_nil_iff.mp e).1) id
  have hseq := (RQ.laws cfg).seq r.request a b hv (C01.RQ_not_done _ hd).2
  rw [if_pos (by rcases hcond with h | h <;> simp [h])] at hseq
  rw [RR.receive_head cfg r (a ++ b) hv, RR.receive_head cfg r a hv, hseq]
  simp only [h1, Bool.false_eq_true, if_false, if_pos hcond, if_pos hcond']
  exact ⟨trivial, trivial⟩

theorem RR.receive_body_seq (cfg : Cfg) (r : RR) (a b : Bytes)
    (hv : r.request.valid = true) (hc : r.request.headers.isChunked = false)
    (hpos : (r.body.length : Int) < r.request.headers.contentLength)
    (hinc : (RR.receive cfg r a).2.2 = .incomplete) :
    (RR.receive cfg r a).2.1 = [] ∧
    RR.receive cfg r (a ++ b) = RR.receive cfg (RR.receive cfg r a).1 b := by
  have hcl : r.request.headers.contentLength > 0 := Int.lt_of_le_of_lt (Int.natCast_nonneg _) hpos
  have hm : r.request.missingHost = false := by
    cases hm : r.request.missingHost
    · rfl
    · rw [RR.receive_valid cfg r a hv, RR.afterHead_noHost cfg r false a hm] at hinc; cases hinc
  have hR : ∀ buf, ¬ RR.Rejects cfg r buf := fun buf h => by
    rw [RR.receive_valid cfg r a hv, RR.afterHead_body cfg r false a hm hc,
      RR.receiveBody_rejects cfg r false a (h.of_pos hcl a)] at hinc
    cases hinc
  rw [RR.receive_accum cfg r a hv hm hc hcl (hR a)] at hinc ⊢
  rw [RR.receive_accum cfg r (a ++ b) hv hm hc hcl (hR _)]
  by_cases hshort : (r.body.length : Int) + a.length < r.request.headers.contentLength
  · rw [RR.accum_short cfg r a hshort, RR.accum_short_append cfg r a b hshort]
    exact ⟨rfl, (RR.receive_accum cfg { r with body := r.body ++ a } b hv hm hc hcl (hR b)).symm⟩
  · rw [(RR.accum_long cfg r a [] (Int.le_of_lt hpos) (Int.not_lt.mp hshort)).1] at hinc
    cases hinc

def RR.feedHead (cfg : Cfg) (r : RR) : List Bytes → RR × Bytes × Rx
  | [] => (r, [], .incomplete)
  | [p] => RR.receive cfg r p
  | p :: q :: rest =>
    let x := RR.receive cfg r p
    if x.2.2 == .incomplete && !x.1.request.valid && x.2.1.isEmpty then RR.feedHead cfg x.1 (q :: rest)
    else (x.1, x.2.1 ++ (q :: rest).flatten, x.2.2)

/-- the witness: `GET / HTTP/1.1`, `Host: a`, blank line arrives in the first read and one more byte in the second:
    fed separately the request is VALID (rest `X`); in a single read the byte that follows a request without
    Content-Length makes it INVALID (411 Length Required).  (A Content-Length body continuing in the second part is
    another counterexample: INCOMPLETE versus VALID.) -/
theorem RR.feedHead_flatten_false :
    ¬ (∀ (cfg : Cfg) (ps : List Bytes), (∀ p ∈ ps, p ≠ []) → ps ≠ [] →
        ∀ (r : RR), r.request.valid = false → RQ.done r.request = false →
          RR.feedHead cfg r ps = RR.receive cfg r ps.flatten) := by
  intro h
  have h1 := congrArg (·.2.2)
    (h {} [b!"GET / HTTP/1.1\r\nHost: a\r\n\r\n", b!"X"] (by decide) (by decide) {} rfl rfl)
  revert h1
  decide +kernel

theorem RR.feedHead_flatten_open (cfg : Cfg) (ps : List Bytes) (hps : ps ≠ []) :
    ∀ (r : RR), r.request.valid = false → RQ.done r.request = false →
      (∀ qs, qs <+: ps → qs ≠ [] → qs ≠ ps → (RQ.parse cfg r.request qs.flatten).2.2 = false) →
      RR.feedHead cfg r ps = RR.receive cfg r ps.flatten := by
  induction ps with
  | nil => exact absurd rfl hps
  | cons p ps' ih =>
    intro r hv hd H
    cases ps' with
    | nil => simp [RR.feedHead]
    | cons q rest =>
      have hp := H [p] (by simp) (by simp) (by simp)
      simp only [List.flatten_cons, List.flatten_nil, List.append_nil] at hp
      rw [RR.feedHead]
      show _ = RR.receive cfg r (p ++ (q :: rest).flatten)
      rcases (RQ.laws cfg).cases RQ.done_eq r.request p (q :: rest).flatten hd with
        ⟨h, _⟩ | ⟨_, hr, _, hv1, hd1, _⟩
      · -- rejected inside `p`
        obtain ⟨h1, h2⟩ := RR.receive_head_fail_seq cfg r p (q :: rest).flatten hv hd
          ⟨hp, (h.resolve_left (by simp [hp])).symm⟩
        rw [h2]
        simp [h1]
      · -- `p` ends inside the head
        obtain ⟨h1, h2⟩ := RR.receive_head_seq cfg r p (q :: rest).flatten hv hd ⟨hd1, hr⟩
        rw [h2, h1]
        simp only [hv1, beq_self_eq_true, Bool.not_false, Bool.and_self, List.isEmpty_nil, if_true]
        refine ih (List.cons_ne_nil q rest) _ hv1 hd1 fun qs hpre hne hne' => ?_
        have := H (p :: qs) (by simpa using hpre) (by simp) (by simpa using hne')
        rw [List.flatten_cons, RQ.parse_seq cfg r.request p qs.flatten hd] at this
        simpa [hd1, hr] using this

theorem RR.feedHead_flatten' (cfg : Cfg) (ps : List Bytes) (hps : ps ≠ []) :
    ∀ (r : RR), r.request.valid = false → RQ.done r.request = false →
      (∀ qs, qs <+: ps → qs ≠ [] → qs ≠ ps →
        RQ.done (RQ.parse cfg r.request qs.flatten).1 = false ∧ (RQ.parse cfg r.request qs.flatten).2.1 = []) →
      RR.feedHead cfg r ps = RR.receive cfg r ps.flatten := by
  intro r hv hd H
  apply RR.feedHead_flatten_open cfg ps hps r hv hd
  intro qs h1 h2 h3
  have hval := C01.RQ_parse_valid cfg r.request qs.flatten hv
  rw [(C01.RQ_not_done _ (H qs h1 h2 h3).1).1] at hval
  exact hval.symm

theorem C01.prefix_pair {α : Type} {p q : α} {qs : List α} (h : qs <+: [p, q]) (hne : qs ≠ [])
    (hne' : qs ≠ [p, q]) : qs = [p] := by
  rcases (List.prefix_concat_iff (l₂ := [p])).mp h with h | h
  · exact absurd h hne'
  · rcases (List.prefix_concat_iff (l₂ := [])).mp h with h | h
    · exact h
    · exact absurd (List.prefix_nil.mp h) hne

/-- the hypothesis of `feedHead_flatten'` is satisfiable: a request head cut in the middle of the request line -/
example : RR.feedHead {} {} [b!"GET / HT", b!"TP/1.1\r\nHost: a\r\n\r\n"] =
    RR.receive {} {} (b!"GET / HTTP/1.1\r\nHost: a\r\n\r\n") := by
  apply RR.feedHead_flatten' {} _ (by decide) {} rfl rfl
  intro qs hpre hne hne'
  rw [C01.prefix_pair hpre hne hne']
  decide +kernel

/-- `http_server::receive_handler` applied to successive reads -/
def RR.feed (cfg : Cfg) (r : RR) : List Bytes → RR × List Delivery
  | [] => (r, [])
  | rd :: rest =>
    let x := RR.readLoop cfg (rd.length + 1) r rd []
    let y := RR.feed cfg x.1 rest
    (y.1, x.2.2 ++ y.2)

/-- what a request / chunk handler can observe of the receiver -/
structure View where
  rx : Rx
  method : Bytes
  uri : Bytes
  major : Byte
  minor : Byte
  fields : Fields
  body : Bytes
  isHead : Bool
  chunkSize : Nat
  chunkExt : Bytes
  chunkData : Bytes
  trailers : Fields
deriving DecidableEq, Repr

def viewOf (d : Delivery) : View :=
  let r := d.snapshot
  { rx := d.rx, method := r.request.line.method, uri := r.request.line.uri, major := r.request.line.major,
    minor := r.request.line.minor, fields := r.request.headers.fields, body := r.body, isHead := r.isHead,
    chunkSize := r.chunk.hdr.size, chunkExt := r.chunk.hdr.ext, chunkData := r.chunk.data,
    trailers := r.chunk.trailers.fields }

/-- the VALID and CHUNK deliveries: what the request and chunk handlers are called with when a request or chunk is
    complete (INCOMPLETE reaches no handler; the interim EXPECT_CONTINUE, which `http_server` passes to the continue
    handler if there is one, is not counted: whether it occurs for a Content-Length body depends on the cut) -/
def payload (ds : List Delivery) : List View :=
  (ds.filter fun d => d.rx == .valid || d.rx == .chunk).map viewOf

def Clean (cfg : Cfg) (bs : Bytes) : Prop :=
  let x := RR.readLoop cfg (bs.length + 1) {} bs []
  x.2.1 = [] ∧ ∀ d ∈ x.2.2, d.rx ≠ .invalid

/-- C01 (fragmentation part): whatever the stream of requests, if it is accepted when it arrives in a single read
    then every division of its bytes into successive non-empty reads delivers exactly the same requests and chunks,
    in the same order, with the same method, target, version, header fields, body, chunk data, extensions and
    trailers. -/
def C01_frag_statement : Prop :=
  ∀ (cfg : Cfg) (bs : Bytes), Clean cfg bs →
    ∀ (ps : List Bytes), ps.flatten = bs → (∀ p ∈ ps, p ≠ []) →
      payload (RR.feed cfg {} ps).2 = payload (RR.feed cfg {} [bs]).2

namespace C01

open RR (afterHead accum pre finish reset chunkParse chunkVerdict)

theorem CK_parse_valid (cfg : Cfg) (k : CK) (x : Bytes) (hv : k.valid = false) :
    (CK.parse cfg k x).1.valid = (CK.parse cfg k x).2.2 :=
  (CK.laws cfg).flag k x hv

theorem chunkParse_split (cfg : Cfg) (r : RR) (x b : Bytes) (hd : CK.done r.chunk = false) :
    chunkParse cfg r (x ++ b) = ((chunkParse cfg r x).1, (chunkParse cfg r x).2.1 ++ b, (chunkParse cfg r x).2.2) ∨
    (chunkParse cfg r x = ({ r with chunk := (CK.parse cfg r.chunk x).1 }, [], .incomplete) ∧
      (CK.parse cfg r.chunk x).1.valid = false ∧
      chunkParse cfg r (x ++ b) = chunkParse cfg { r with chunk := (CK.parse cfg r.chunk x).1 } b) := by
  unfold chunkParse
  rcases (CK.laws cfg).cases CK.done_eq r.chunk x b hd with
    ⟨h1, h2⟩ | ⟨h1, h2, h3, h4, _, h6⟩
  · left
    rw [h2]
    dsimp only
    rw [clears_append b h1]
  · right
    rw [h6]
    refine ⟨?_, h4, rfl⟩
    simp [chunkVerdict, RR.chunkRx, h1, h2, h3, h4]

/-- in a reachable state a head or chunk that is not complete has not failed either -/
def Extra (r : RR) : Prop :=
  (r.request.valid = false → RQ.done r.request = false) ∧ (r.chunk.valid = false → CK.done r.chunk = false)

def Inv (r : RR) : Prop := RR.Ok r ∧ Extra r

theorem extra_fresh (c : Nat) : Extra { code := c } := ⟨fun _ => rfl, fun _ => rfl⟩

theorem inv_init : Inv {} := ⟨RR.ok_init, extra_fresh _⟩

theorem reset_done (r : RR) (hC : r.chunk.valid = false → CK.done r.chunk = false) : CK.done (reset r).chunk = false :=
  RR.reset_cases (P := fun x => CK.done x.chunk = false) r rfl hC

theorem extra_closed (cfg : Cfg) : RR.Closed cfg Extra where
  clear _ := extra_fresh _
  code _ _ h := h
  continued _ h := h
  isHead _ _ h := h
  head r buf h hv hk := ⟨(RQ.laws cfg).kept_done RQ.done_eq r.request buf hv hk, h.2⟩
  toGet _ h _ := h
  body _ _ h _ := h
  newChunk _ h := ⟨h.1, fun _ => rfl⟩
  chunk r buf h hv hk := ⟨h.1, (CK.laws cfg).kept_done CK.done_eq r.chunk buf hv hk⟩

theorem inv_step (cfg : Cfg) (r : RR) (buf : Bytes) (h : Inv r) :
    Inv (RR.afterResult cfg (RR.receive cfg r buf).1 (RR.receive cfg r buf).2.2) :=
  ⟨RR.ok_step cfg r buf h.1, (extra_closed cfg).next r buf h.2⟩

/-! ### receiver states that differ only in the response code and the 100-continue flag -/

def Sim (r r' : RR) : Prop :=
  r.request = r'.request ∧ r.chunk = r'.chunk ∧ r.body = r'.body ∧ r.isHead = r'.isHead ∧
  (r.request.valid = false → r.continueSent = r'.continueSent)

theorem Sim.rfl' (r : RR) : Sim r r := ⟨rfl, rfl, rfl, rfl, fun _ => rfl⟩

theorem Sim.elim {r r' : RR} (h : Sim r r') :
    ∃ c s, r' = { r with code := c, continueSent := s } ∧ (r.request.valid = false → r.continueSent = s) := by
  obtain ⟨h1, h2, h3, h4, h5⟩ := h
  cases r; cases r'
  simp only at h1 h2 h3 h4 h5
  subst h1 h2 h3 h4
  exact ⟨_, _, rfl, h5⟩

abbrev SimR (p q : RR × Bytes × Rx) : Prop := Sim p.1 q.1 ∧ p.2 = q.2

theorem sim_pre (r r' : RR) (h : Sim r r') : Sim (pre r) (pre r') := h

theorem sim_reset (r r' : RR) (h : Sim r r') : Sim (reset r) (reset r') := by
  obtain ⟨c, s, rfl, hs⟩ := h.elim
  exact ite_rel Sim ⟨rfl, rfl, rfl, rfl, hs⟩ ⟨rfl, rfl, rfl, rfl, hs⟩

theorem accum_sim (cfg : Cfg) (r r' : RR) (buf : Bytes) (h : Sim r r') :
    SimR (accum cfg r buf) (accum cfg r' buf) := by
  obtain ⟨c, s, rfl, hs⟩ := h.elim
  unfold accum finish
  dsimp only
  exact ite_rel SimR ⟨ite_rel Sim ⟨rfl, rfl, rfl, rfl, hs⟩ ⟨rfl, rfl, rfl, rfl, hs⟩, rfl⟩
    ⟨⟨rfl, rfl, rfl, rfl, hs⟩, rfl⟩

theorem chunkVerdict_sim (cfg : Cfg) (r r' : RR) (k : CK) (bad : Bool) (h : Sim r r') :
    Sim (chunkVerdict cfg r k bad).1 (chunkVerdict cfg r' k bad).1 ∧
    (chunkVerdict cfg r k bad).2 = (chunkVerdict cfg r' k bad).2 := by
  obtain ⟨c, s, rfl, hs⟩ := h.elim
  exact ⟨ite_rel Sim (Sim.rfl' _) (ite_rel Sim ⟨rfl, rfl, rfl, rfl, hs⟩ ⟨rfl, rfl, rfl, rfl, hs⟩), rfl⟩

theorem chunkParse_sim (cfg : Cfg) (r r' : RR) (buf : Bytes) (h : Sim r r') :
    SimR (chunkParse cfg r buf) (chunkParse cfg r' buf) := by
  unfold chunkParse SimR
  rw [← h.2.1]
  dsimp only
  exact ⟨(chunkVerdict_sim cfg r r' _ _ h).1, congrArg _ (chunkVerdict_sim cfg r r' _ _ h).2⟩

theorem afterHead_sim (cfg : Cfg) (r : RR) (rp : Bool) (buf : Bytes) (c : Nat) (s : Bool)
    (hs : r.request.valid = false → r.continueSent = s) (hrp : rp = false ∨ r.continueSent = s) :
    SimR (afterHead cfg r rp buf) (afterHead cfg { r with code := c, continueSent := s } rp buf) := by
  have h : Sim r { r with code := c, continueSent := s } := ⟨rfl, rfl, rfl, rfl, hs⟩
  unfold afterHead
  dsimp only
  refine ite_rel SimR ⟨h, rfl⟩ (ite_rel SimR ?body ?chunk)
  -- the 100-continue tests read `continueSent` only right after the head (`rp`), where the two states agree on it;
  -- otherwise they fail in both calls
  case body =>
    rw [RR.receiveBody_eq, RR.receiveBody_eq]
    dsimp only
    refine ite_rel SimR ⟨Sim.rfl' _, rfl⟩ (ite_rel SimR ⟨Sim.rfl' _, rfl⟩ (ite_rel SimR ⟨Sim.rfl' _, rfl⟩ ?_))
    have hp := sim_pre _ _ h
    have ha := accum_sim cfg _ _ buf hp
    rcases hrp with rfl | rfl
    · rw [if_neg fun h => Bool.noConfusion h.1, if_neg fun h => Bool.noConfusion h.1]
      exact ha
    · exact ite_rel SimR ⟨hp, rfl⟩ ha
  case chunk =>
    rw [RR.receiveChunk_eq, RR.receiveChunk_eq]
    have hr := sim_reset _ _ h
    rcases hrp with rfl | rfl <;>
      exact ite_rel SimR ⟨hr, rfl⟩ (ite_rel SimR ⟨hr, rfl⟩ (chunkParse_sim cfg _ _ buf hr))

theorem receive_sim (cfg : Cfg) (r r' : RR) (buf : Bytes) (h : Sim r r') :
    SimR (RR.receive cfg r buf) (RR.receive cfg r' buf) := by
  obtain ⟨c, s, rfl, hs⟩ := h.elim
  cases hv : r.request.valid
  · obtain rfl := hs hv
    rw [RR.receive_head cfg r buf hv, RR.receive_head cfg { r with code := c, continueSent := r.continueSent } buf hv]
    dsimp only
    exact ite_rel SimR (afterHead_sim cfg _ true _ c _ (fun _ => rfl) (Or.inr rfl))
      (ite_rel SimR ⟨Sim.rfl' _, rfl⟩ ⟨⟨rfl, rfl, rfl, rfl, fun _ => rfl⟩, rfl⟩)
  · rw [RR.receive_valid cfg r buf hv, RR.receive_valid cfg { r with code := c, continueSent := s } buf hv]
    exact afterHead_sim cfg r false buf c s hs (Or.inl rfl)

theorem after_sim (cfg : Cfg) (s s' : RR) (x : Rx) (h : Sim s s') :
    Sim (RR.afterResult cfg s x) (RR.afterResult cfg s' x) := by
  obtain ⟨c, t, rfl, ht⟩ := h.elim
  rw [RR.afterResult_eq, RR.afterResult_eq]
  exact ite_rel Sim (Sim.rfl' _) (ite_rel Sim ⟨rfl, rfl, rfl, rfl, fun _ => rfl⟩ ⟨rfl, rfl, rfl, rfl, ht⟩)

/-- the law `Rcv.Splits.split` for this receiver, between a result `q` for `a ++ b` and a result `p` for `a` -/
def Split (cfg : Cfg) (q p : RR × Bytes × Rx) (b : Bytes) : Prop :=
  q = (p.1, p.2.1 ++ b, p.2.2) ∨
  (Rcv.silent p.2.2 ∧ SimR q (RR.receive cfg (RR.afterResult cfg p.1 p.2.2) (p.2.1 ++ b)))

theorem Split.cont {cfg : Cfg} {q p : RR × Bytes × Rx} {b : Bytes} {r' : RR} (hp : p = (r', [], .incomplete))
    (hq : q = RR.receive cfg r' b) : Split cfg q p b := by
  subst hp hq
  exact Or.inr ⟨Or.inl rfl, Sim.rfl' _, rfl⟩

theorem body_split (cfg : Cfg) (r : RR) (rp : Bool) (x b : Bytes) (hv : r.request.valid = true)
    (hm : r.request.missingHost = false) (hc : r.request.headers.isChunked = false)
    (hle : 0 ≤ r.request.headers.contentLength → (r.body.length : Int) ≤ r.request.headers.contentLength)
    (hinv : (RR.receiveBody cfg r rp (x ++ b)).2.2 ≠ .invalid) :
    Split cfg (RR.receiveBody cfg r rp (x ++ b)) (RR.receiveBody cfg r rp x) b := by
  have hR : ¬ RR.Rejects cfg r (x ++ b) := fun h => hinv (by rw [RR.receiveBody_rejects cfg r rp _ h])
  have hRx : ¬ RR.Rejects cfg r x := fun h => hR (h.append b)
  by_cases hE : RR.Expects r rp x
  · -- the first read ends before the body is complete and 100-continue is requested
    have hcl : r.request.headers.contentLength > 0 := Int.lt_of_le_of_lt (Int.natCast_nonneg _) hE.2.1
    rw [RR.receiveBody_expects cfg r rp x hRx hE]
    by_cases hE2 : RR.Expects r rp (x ++ b)
    · left
      rw [RR.receiveBody_expects cfg r rp _ hR hE2]
    · right
      rw [RR.receiveBody_accum cfg r rp _ hR hE2, RR.pre_of_pos hR hcl]
      dsimp only [RR.afterResult]
      rw [RR.receive_accum cfg { r with code := 100, continueSent := true } (x ++ b) hv hm hc hcl hR]
      exact ⟨Or.inr rfl, accum_sim cfg _ _ (x ++ b) ⟨rfl, rfl, rfl, rfl, fun h => by rw [hv] at h; cases h⟩⟩
  · -- no interim response on the first read, hence none on the single read
    rw [RR.receiveBody_accum cfg r rp x hRx hE, RR.receiveBody_accum cfg r rp _ hR (fun h => hE h.short)]
    by_cases hshort : (r.body.length : Int) + x.length < r.request.headers.contentLength
    · -- the body continues in `b`
      have hcl : r.request.headers.contentLength > 0 :=
        Int.lt_of_le_of_lt (Int.add_nonneg (Int.natCast_nonneg _) (Int.natCast_nonneg _)) hshort
      rw [RR.pre_of_pos hR hcl]
      refine Split.cont (RR.accum_short cfg r x hshort) ?_
      rw [RR.accum_short_append cfg r x b hshort,
        RR.receive_accum cfg { r with body := r.body ++ x } b hv hm hc hcl (fun h => hR (h.of_pos hcl _))]
    · -- the body is complete inside `x`
      have h0 : 0 ≤ r.request.headers.contentLength := Int.not_lt.mp fun h => hR (Or.inr (Or.inl h))
      obtain ⟨hl1, hl2⟩ := RR.accum_long cfg (pre r) x b (hle h0) (Int.not_lt.mp hshort)
      left
      rw [hl2, hl1]

theorem chunk_split (cfg : Cfg) (r : RR) (rp : Bool) (x b : Bytes) (hv : r.request.valid = true)
    (hm : r.request.missingHost = false) (hc : r.request.headers.isChunked = true)
    (hck : r.chunk.valid = false → CK.done r.chunk = false) :
    Split cfg (RR.receiveChunk cfg r rp (x ++ b)) (RR.receiveChunk cfg r rp x) b := by
  rw [RR.receiveChunk_eq, RR.receiveChunk_eq]
  refine ite_rel (Split cfg · · b) (Or.inl rfl) (ite_rel (Split cfg · · b) (Or.inl rfl) ?_)
  have f1 := (RR.reset_facts r).1
  rcases chunkParse_split cfg (reset r) x b (reset_done r hck) with h | ⟨h1, h2, h3⟩
  · exact Or.inl h
  · exact Split.cont h1 (h3.trans (RR.receive_chunk cfg _ b (f1 ▸ hv) (f1 ▸ hm) (f1 ▸ hc) h2).symm)

theorem afterHead_split (cfg : Cfg) (r : RR) (rp : Bool) (x b : Bytes) (hv : r.request.valid = true)
    (hle : r.request.headers.isChunked = false → 0 ≤ r.request.headers.contentLength →
       (r.body.length : Int) ≤ r.request.headers.contentLength)
    (hck : r.chunk.valid = false → CK.done r.chunk = false)
    (hinv : (afterHead cfg r rp (x ++ b)).2.2 ≠ .invalid) :
    Split cfg (afterHead cfg r rp (x ++ b)) (afterHead cfg r rp x) b := by
  cases hm : r.request.missingHost
  · cases hc : r.request.headers.isChunked
    · rw [RR.afterHead_body cfg r rp x hm hc]
      rw [RR.afterHead_body cfg r rp (x ++ b) hm hc] at hinv ⊢
      exact body_split cfg r rp x b hv hm hc (hle hc) hinv
    · rw [RR.afterHead_chunk cfg r rp x hm hc, RR.afterHead_chunk cfg r rp (x ++ b) hm hc]
      exact chunk_split cfg r rp x b hv hm hc hck
  · rw [RR.afterHead_noHost cfg r rp (x ++ b) hm] at hinv
    exact absurd rfl hinv

theorem split (cfg : Cfg) (r : RR) (a b : Bytes) (hI : Inv r)
    (hinv : (RR.receive cfg r (a ++ b)).2.2 ≠ .invalid) :
    Split cfg (RR.receive cfg r (a ++ b)) (RR.receive cfg r a) b := by
  obtain ⟨⟨ok1, _, ok3⟩, hA, hC⟩ := hI
  cases hv : r.request.valid
  · have hval := RQ_parse_valid cfg r.request a hv
    rcases (RQ.laws cfg).cases RQ.done_eq r.request a b (hA hv) with ⟨h1, h2⟩ | ⟨_, h2, _, _, h5, _⟩
    · cases hbo : (RQ.parse cfg r.request a).2.2
      · -- the head is rejected inside `a`
        have e := (RR.receive_head_fail_seq cfg r a b hv (hA hv) ⟨hbo, (h1.resolve_left (by simp [hbo])).symm⟩).2
        exact absurd (by rw [e]) hinv
      · -- the head is completed inside `a`
        rw [RR.receive_head cfg r a hv, if_pos hbo]
        rw [RR.receive_head cfg r (a ++ b) hv, h2, if_pos hbo] at hinv ⊢
        refine afterHead_split cfg _ true _ b (hval.trans hbo) (fun _ h0 => ?_) hC hinv
        show ((r.body.length : Nat) : Int) ≤ _
        rw [ok3 hv]; exact h0
    · obtain ⟨e1, e2⟩ := RR.receive_head_seq cfg r a b hv (hA hv) ⟨h5, h2⟩
      exact Split.cont e1 e2
  · rw [RR.receive_valid cfg r a hv]
    rw [RR.receive_valid cfg r (a ++ b) hv] at hinv ⊢
    exact afterHead_split cfg r false a b hv (fun hc _ => Int.le_of_lt (ok1 hv hc)) hC hinv

end C01

theorem RR.feed_eq (cfg : Cfg) (ps : List Bytes) : ∀ (r : RR),
    RR.feed cfg r ps = (RR.rcv cfg).feed Delivery.mk r ps := by
  induction ps with
  | nil => intro r; rfl
  | cons p ps ih => intro r; simp only [RR.feed, Rcv.feed, RR.readLoop_eq, ih]

namespace C01

/-- a delivery without the byte count -/
abbrev Ev := Rx × RR

def okE (es : List Ev) : Prop := ∀ e ∈ es, e.1 ≠ .invalid

theorem okE_append (xs ys : List Ev) : okE (xs ++ ys) ↔ okE xs ∧ okE ys :=
  List.forall_mem_append

def ev (d : Delivery) : Ev := (d.rx, d.snapshot)

def view (x : Rx) (s : RR) : View := viewOf { rx := x, used := 0, snapshot := s }

theorem payload_eq_pay (ds : List Delivery) : payload ds = Rcv.pay view (ds.map ev) := by
  simp only [payload, Rcv.pay, List.filter_map, List.map_map]
  rfl

theorem splits (cfg : Cfg) : Rcv.Splits (RR.rcv cfg) Inv Sim (fun _ => True) view where
  step := inv_step cfg
  progress r buf hI := RR.receive_progress cfg r buf hI.1
  sim_receive := receive_sim cfg
  sim_after := after_sim cfg
  sim_view x s s' h := by
    obtain ⟨h1, h2, h3, h4, _⟩ := h
    simp only [view, viewOf, h1, h2, h3, h4]
  sim_good _ _ _ _ := trivial
  split r a b hI _ hinv _ := by
    dsimp only [RR.rcv, Rcv.next]
    exact split cfg r a b hI hinv

end C01

theorem C01_frag : C01_frag_statement := by
  intro cfg bs hclean ps hps _
  simp only [Clean, RR.readLoop_eq] at hclean
  rw [C01.payload_eq_pay, C01.payload_eq_pay, RR.feed_eq, RR.feed_eq]
  exact ((C01.splits cfg).frag Delivery.mk C01.ev (fun _ _ _ => rfl) C01.inv_init bs hclean.1 hclean.2 trivial ps
    hps).2

/-- the hypothesis of `C01_frag` is satisfiable by a non-trivial stream: a POST with a body, pipelined with a
    chunked POST with an Expect header and a trailer, followed by a GET -/
example : Clean {} (b!"POST /a HTTP/1.1\r\nHost: a\r\nContent-Length: 3\r\n\r\nabcPOST /b HTTP/1.1\r\nHost: a\r\nExpect: 100-continue\r\nTransfer-Encoding: chunked\r\n\r\n2;x=1\r\nhi\r\n0\r\nT: v\r\n\r\nGET /c HTTP/1.1\r\nHost: a\r\nContent-Length: 0\r\n\r\n") := by
  unfold Clean
  decide +kernel

example : payload (RR.feed {} {} [b!"POST /a HTTP/1.1\r\nHost: a\r\nContent-Le", b!"ngth: 3\r\n\r\na",
      b!"bcGET /c HTTP/1.1\r", b!"\nHost: a\r\nContent-Length: 0\r\n\r\n"]).2 =
    payload (RR.feed {} {}
      [b!"POST /a HTTP/1.1\r\nHost: a\r\nContent-Length: 3\r\n\r\nabcGET /c HTTP/1.1\r\nHost: a\r\nContent-Length: 0\r\n\r\n"]).2 :=
  C01_frag {} _ (by unfold Clean; decide +kernel) _ rfl (by decide)

end Via
