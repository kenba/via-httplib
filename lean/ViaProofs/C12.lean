import ViaModel.Generated
/-
  C12 — thread-pool mode.

  What a proof about the model can carry: the hypotheses under which the single-threaded theorems about the
  connection layer (C03, C09, C10, C11) transfer to a pool of threads are STRUCTURAL facts about the source, which
  `tools/extract.py` re-reads on every run and which are discharged here by evaluation of the regenerated
  constants.  If an edit removes the strand from `async_accept`, replaces a concurrent collection by a plain one
  under HTTP_THREAD_SAFE, or takes a bucket lock after touching the data, these obligations stop checking.
  Data races at the memory level cannot be exhibited by the model: they are searched for with ThreadSanitizer on
  the real adaptor (thorough tier).
-/
namespace Via

/-- every accepted socket is bound to its own strand when HTTP_THREAD_SAFE is defined, so the completion handlers
    of one connection never run concurrently -/
theorem C12_accept_on_strand : Gen.acceptOnStrandWhenThreadSafe = true := by decide

/-- both connection collections are the concurrent map under HTTP_THREAD_SAFE -/
theorem C12_collections_concurrent : Gen.collectionsConcurrentWhenThreadSafe = true := by decide

/-- every bucket operation of the concurrent map takes the bucket lock before touching the data, and the whole-map
    operations lock every bucket first (the lock discipline assumed by C18) -/
theorem C12_lock_discipline : Gen.bucketOpsTakeLockFirst = true := by decide

/-- the connected handler, which a plain TCP server runs outside the connection's strand, finishes before the first
    read of the connection is started: no other handler of that connection can run beside it -/
theorem C12_connected_before_reception : Gen.connectedBeforeReception = true := by decide

end Via
