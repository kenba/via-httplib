import ViaModel.HashMapConc
import ViaProofs.C18
/-
  C18 — linearizability of `threadsafe_hash_map` for EVERY schedule.

  Over the interleaving semantics of `ViaModel/HashMapConc.lean` (any number of threads, one micro-step of one thread at
  a time, nothing assumed about the scheduler) this file proves an invariant of every reachable state from which
  linearizability follows:

  * `Inv.logA`, `Inv.logR`: the operations, in the order of their linearization points (the write of a single-bucket
    operation; the moment a whole-map operation has visited its last bucket, all mutexes still held), form a legal
    SEQUENTIAL run of the map from the empty map, producing exactly the results the threads return;
  * `HInv`: in the event history every thread's events are `inv, lin, ret` triples in program order, the `lin` event
    carrying the returned result (`shape`), and the `lin` events in history order are that log (`lins`).  So each
    linearization point lies, in the one global history, between its invocation and its return (`C18_linearizable`,
    `C18_returned`).  That an operation which returns before another is invoked precedes it in the log follows from
    `shape` and `lins`; it is not stated as a theorem.
  Together with `C18_seq` (the sequential map is an ordinary map) this is the property for all schedules.
-/
namespace Via.HM.Conc
open Via Via.HM

variable {V : Type}

@[simp] theorem upd_same {α} (f : Nat → α) (t : Nat) (x : α) : upd f t x t = x := by simp [upd]
theorem upd_other {α} (f : Nat → α) (t u : Nat) (x : α) (h : u ≠ t) : upd f t x u = f u := by simp [upd, h]

/-- facts a thread state carries about its operation, its progress, what it has read and — a `clear` on its way through
    the buckets — what it has stored; none once the operation has taken effect -/
def TOk (n : Nat) (hash : Nat → Nat) (mem abs : List (Bucket V)) : TS V → Prop
  | .sWait op k => key? op = some k
  | .sHeld op k => key? op = some k
  | .sRead op k l => key? op = some k ∧ l = mem.getD (hash k % n) []
  | .mAcq op _ => key? op = none
  | .mAcc op i acc => key? op = none ∧ i ≤ n ∧ acc = abs.take i ∧
      (writes op = true → ∀ b, b < i → mem.getD b [] = bucketFn op (abs.getD b []))
  | _ => True

def opsOf (log : List (Nat × Op V × Res V)) : List (Op V) := log.map (fun e => e.2.1)
def ressOf (log : List (Nat × Op V × Res V)) : List (Res V) := log.map (fun e => e.2.2)

/-- the thread is a whole-map writer that has overwritten bucket `b` and not reached its linearization point -/
def TS.visited : TS V → Nat → Prop
  | .mAcc op i _, b => writes op = true ∧ b < i
  | _, _ => False

structure Inv (n : Nat) (hash : Nat → Nat) (s : St V) : Prop where
  npos : 0 < n
  memlen : s.mem.length = n
  absn : s.abs.n = n
  abshash : s.abs.hash = hash
  abslen : s.abs.buckets.length = n
  /-- mutual exclusion -/
  me : ∀ t u b, t ≠ u → (s.thr t).holdsX n hash b = true → (s.thr u).holds n hash b = false
  tok : ∀ t, TOk n hash s.mem s.abs.buckets (s.thr t)
  /-- every bucket not yet visited by a `clear` in progress holds what the sequential map holds -/
  memA : ∀ b, b < n → (∀ t, ¬ (s.thr t).visited b) → s.mem.getD b [] = s.abs.buckets.getD b []
  logA : s.abs = ((Map.empty n hash).run (opsOf s.log)).1
  logR : ((Map.empty n hash).run (opsOf s.log)).2 = ressOf s.log

theorem getD_set_self {α} {l : List α} {i : Nat} {x d : α} (h : i < l.length) : (l.set i x).getD i d = x := by
  simp [h]

theorem getD_set_ne {α} {l : List α} {i j : Nat} {x d : α} (h : i ≠ j) : (l.set i x).getD j d = l.getD j d := by
  simp [h]

theorem set_getD_self {α} (l : List α) (i : Nat) (d : α) : l.set i (l.getD i d) = l := by
  by_cases h : i < l.length
  · rw [← List.getElem_eq_getD (h := h), List.set_getElem_self]
  · exact List.set_eq_of_length_le (Nat.le_of_not_lt h)

theorem take_succ_getD {α} {l : List α} {i : Nat} {d : α} (h : i < l.length) :
    l.take (i + 1) = l.take i ++ [l.getD i d] := by
  rw [← List.getElem_eq_getD (h := h), List.take_append_getElem]

theorem run_append (m : Map V) (ops : List (Op V)) (op : Op V) :
    m.run (ops ++ [op]) = (((m.run ops).1.step op).1, (m.run ops).2 ++ [((m.run ops).1.step op).2]) := by
  induction ops generalizing m with
  | nil => simp [Map.run]
  | cons o os ih =>
    simp only [List.cons_append, Map.run]
    rw [ih]

theorem step_multi (m : Map V) (op : Op V) (hk : key? op = none) :
    (m.step op).1 = { m with buckets := if writes op then m.buckets.map (bucketFn op) else m.buckets } ∧
    (m.step op).2 = resOf op m.buckets := by
  cases op <;> cases hk <;> exact ⟨rfl, rfl⟩

theorem bucketFn_reader (op : Op V) (h : writes op = false) (b : Bucket V) : bucketFn op b = b := by
  cases op <;> cases h <;> rfl

theorem step_reader (m : Map V) (op : Op V) (h : writes op = false) : (m.step op).1 = m := by
  cases op <;> cases h <;> rfl

theorem step_shape (m : Map V) (op : Op V) :
    (m.step op).1.n = m.n ∧ (m.step op).1.hash = m.hash ∧ (m.step op).1.buckets.length = m.buckets.length := by
  cases op <;> simp [Map.step, Map.insert, Map.erase, Map.clear]

theorem init_inv (n : Nat) (hash : Nat → Nat) (hn : 0 < n) : Inv n hash (St.init (V := V) n hash) := by
  refine ⟨hn, by simp [St.init], rfl, rfl, by simp [St.init, Map.empty], ?_, ?_, ?_, rfl, rfl⟩
  · intro t u b _ h; simp [St.init, TS.holdsX, TS.holds] at h
  · intro t; simp [St.init, TOk]
  · intro b _ _; simp [St.init, Map.empty]

theorem holdsX_iff {n : Nat} {hash : Nat → Nat} {ts : TS V} {b : Nat} :
    ts.holdsX n hash b = true ↔ ts.holds n hash b = true ∧ ∃ op, ts.op? = some op ∧ writes op = true := by
  cases h : ts.op? <;> simp [TS.holdsX, h]

theorem free_iff {n : Nat} {hash : Nat → Nat} {o : TS V} {op : Op V} {b : Nat} :
    free n hash o op b ↔ o.holdsX n hash b = false ∧ (writes op = true → o.holds n hash b = false) := by
  unfold free
  cases hw : writes op
  · simp
  · simp only [↓reduceIte, forall_const, iff_and_self]
    intro h; cases hx : o.holdsX n hash b
    · rfl
    · rw [(holdsX_iff.1 hx).1] at h; cases h

section
variable {n : Nat} {hash : Nat → Nat} {s : St V}

theorem Inv.tok_at (h : Inv n hash s) {t : Nat} {ts : TS V} (hts : s.thr t = ts) : TOk n hash s.mem s.abs.buckets ts :=
  hts ▸ h.tok t

theorem Inv.me_step (h : Inv n hash s) (t : Nat) (ts' : TS V)
    (h1 : ∀ u b, u ≠ t → ts'.holdsX n hash b = true → (s.thr u).holds n hash b = false)
    (h2 : ∀ u b, u ≠ t → (s.thr u).holdsX n hash b = true → ts'.holds n hash b = false) :
    ∀ a u b, a ≠ u → (upd s.thr t ts' a).holdsX n hash b = true → (upd s.thr t ts' u).holds n hash b = false := by
  intro a u b hau ha
  by_cases e1 : a = t
  · subst e1
    rw [upd_other _ _ _ _ (Ne.symm hau)]
    rw [upd_same] at ha
    exact h1 u b (Ne.symm hau) ha
  · rw [upd_other _ _ _ _ e1] at ha
    by_cases e2 : u = t
    · subst e2
      rw [upd_same]
      exact h2 a b e1 ha
    · rw [upd_other _ _ _ _ e2]
      exact h.me a u b hau ha

theorem Inv.me_sub (h : Inv n hash s) {t : Nat} {ts : TS V} (hts : s.thr t = ts) (ts' : TS V)
    (hsub : ∀ b, ts'.holds n hash b = true → ts.holds n hash b = true)
    (hop : ∀ op, ts'.op? = some op → ts.op? = some op) :
    ∀ a u b, a ≠ u → (upd s.thr t ts' a).holdsX n hash b = true → (upd s.thr t ts' u).holds n hash b = false := by
  subst hts
  refine h.me_step t ts' (fun u b hu hb => ?_) fun u b hu hb => Bool.eq_false_iff.2 fun hb' => ?_
  · obtain ⟨h1, op, h2, h3⟩ := holdsX_iff.1 hb
    exact h.me t u b (Ne.symm hu) (holdsX_iff.2 ⟨hsub b h1, op, hop op h2, h3⟩)
  · have := hsub b hb'; rw [h.me u t b hu hb] at this; cases this

theorem Inv.me_acquire (h : Inv n hash s) {t : Nat} {ts : TS V} (hts : s.thr t = ts) (ts' : TS V) (op : Op V) (b0 : Nat)
    (hgrow : ∀ b, ts'.holds n hash b = true → ts.holds n hash b = true ∨ b = b0)
    (hop' : ts'.op? = some op) (hop : ts.op? = some op)
    (hfree : ∀ u, u ≠ t → free n hash (s.thr u) op b0) :
    ∀ a u b, a ≠ u → (upd s.thr t ts' a).holdsX n hash b = true → (upd s.thr t ts' u).holds n hash b = false := by
  subst hts
  refine h.me_step t ts' (fun u b hu hb => ?_) fun u b hu hb => Bool.eq_false_iff.2 fun hb' => ?_
  · obtain ⟨h1, op', h2, h3⟩ := holdsX_iff.1 hb
    cases hop'.symm.trans h2
    rcases hgrow b h1 with hb | rfl
    · exact h.me t u b (Ne.symm hu) (holdsX_iff.2 ⟨hb, op, hop, h3⟩)
    · exact (free_iff.1 (hfree u hu)).2 h3
  · rcases hgrow b hb' with hb'' | rfl
    · rw [h.me u t b hu hb] at hb''; cases hb''
    · rw [(free_iff.1 (hfree u hu)).1] at hb; cases hb

/-- thread-local facts speak only of the buckets whose mutex the thread holds, and of the sequential map as a whole only
    if it holds them all -/
theorem TOk.frame {mem mem' abs abs' : List (Bucket V)} {ts : TS V} (h : TOk n hash mem abs ts)
    (hm : ∀ b, ts.holds n hash b = true → mem'.getD b [] = mem.getD b [])
    (ha : (∀ b, b < n → ts.holds n hash b = true) → abs' = abs) : TOk n hash mem' abs' ts := by
  cases ts with
  | sRead op k l => exact ⟨h.1, by rw [hm _ (by simp [TS.holds])]; exact h.2⟩
  | mAcc op i acc =>
    obtain ⟨h1, h2, h3, h4⟩ := h
    have hall : ∀ b, b < n → (TS.mAcc op i acc).holds n hash b = true := fun b hb => by simp [TS.holds, hb]
    rw [ha hall]
    exact ⟨h1, h2, h3, fun hw b hb => by rw [hm b (hall b (by omega))]; exact h4 hw b hb⟩
  | _ => exact h

theorem frame (h : Inv n hash s) {t : Nat} {ts : TS V} (hts : s.thr t = ts) (ts' : TS V) (hist' : List (Ev V))
    (hme : ∀ a u b, a ≠ u → (upd s.thr t ts' a).holdsX n hash b = true → (upd s.thr t ts' u).holds n hash b = false)
    (htok : TOk n hash s.mem s.abs.buckets ts')
    (hv : ∀ b, ts.visited b → ts'.visited b) :
    Inv n hash { s with thr := upd s.thr t ts', hist := hist' } := by
  refine ⟨h.npos, h.memlen, h.absn, h.abshash, h.abslen, hme, fun a => ?_,
    fun b hb hnv => h.memA b hb fun a ha => hnv a ?_, h.logA, h.logR⟩
  · by_cases e : a = t
    · rw [e]; simp only [upd_same]; exact htok
    · simp only [upd_other _ _ _ _ e]; exact h.tok a
  · by_cases e : a = t
    · rw [e]; simp only [upd_same]; exact hv b (hts ▸ e ▸ ha)
    · simp only [upd_other _ _ _ _ e]; exact ha

theorem Inv.tok_step (h : Inv n hash s) (t : Nat) (ts' : TS V) {mem' abs' : List (Bucket V)}
    (htok : TOk n hash mem' abs' ts')
    (hm : ∀ b, (s.thr t).holdsX n hash b = true ∨ mem'.getD b [] = s.mem.getD b [])
    (ha : (∃ b, b < n ∧ (s.thr t).holdsX n hash b = true) ∨ abs' = s.abs.buckets) :
    ∀ u, TOk n hash mem' abs' (upd s.thr t ts' u) := by
  intro u
  by_cases e : u = t
  · rw [e, upd_same]; exact htok
  · rw [upd_other _ _ _ _ e]
    have hx : ∀ b, (s.thr t).holdsX n hash b = true → (s.thr u).holds n hash b = true → False := fun b hx hu => by
      rw [h.me t u b (Ne.symm e) hx] at hu; cases hu
    exact (h.tok u).frame (fun b hu => (hm b).resolve_left fun hx' => hx b hx' hu)
      fun hall => ha.resolve_left fun ⟨b, hb, hx'⟩ => hx b hx' (hall b hb)

theorem holdsX_mAcc {op : Op V} {i : Nat} {acc : List (Bucket V)} {b : Nat} (hw : writes op = true) (hb : b < n) :
    (TS.mAcc op i acc).holdsX n hash b = true :=
  holdsX_iff.2 ⟨decide_eq_true hb, op, rfl, hw⟩

theorem TS.visited.holdsX {ts : TS V} {b' : Nat} (hv : ts.visited b') {b : Nat} (hb : b < n) :
    ts.holdsX n hash b = true := by
  cases ts with
  | mAcc op i acc => exact holdsX_mAcc hv.1 hb
  | _ => exact hv.elim

/-- whatever has been visited has been visited by the thread that holds a mutex -/
theorem Inv.visited_self (h : Inv n hash s) {t : Nat} {ts : TS V} (hts : s.thr t = ts) {b : Nat} (hb : b < n)
    (ht : ts.holds n hash b = true) {b' u : Nat} (hv : (s.thr u).visited b') : ts.visited b' := by
  subst hts
  by_cases e : u = t
  · exact e ▸ hv
  · rw [h.me u t b e (hv.holdsX hb)] at ht; cases ht

theorem log_step (h : Inv n hash s) (t : Nat) (op : Op V) (r : Res V) (hr : r = (s.abs.step op).2) :
    (s.abs.step op).1 = ((Map.empty n hash).run (opsOf (s.log ++ [(t, op, r)]))).1 ∧
    ((Map.empty n hash).run (opsOf (s.log ++ [(t, op, r)]))).2 = ressOf (s.log ++ [(t, op, r)]) := by
  have e : opsOf (s.log ++ [(t, op, r)]) = opsOf s.log ++ [op] := by simp [opsOf]
  rw [e, run_append, ← h.logA, h.logR]
  simp [ressOf, hr]

theorem getD_store (mem : List (Bucket V)) (op : Op V) {i b : Nat} (h : b ≠ i ∨ writes op = false) :
    (mem.set i (bucketFn op (mem.getD i []))).getD b [] = mem.getD b [] := by
  rcases h with e | hwr
  · exact getD_set_ne (Ne.symm e)
  · rw [bucketFn_reader op hwr, set_getD_self]

theorem store_frame {t : Nat} {op : Op V} {i : Nat} (hX : writes op = true → (s.thr t).holdsX n hash i = true) (b : Nat) :
    (s.thr t).holdsX n hash b = true ∨
      (s.mem.set i (bucketFn op (s.mem.getD i []))).getD b [] = s.mem.getD b [] := by
  by_cases e : b = i
  · cases hwr : writes op
    · exact .inr (getD_store _ _ (.inr hwr))
    · exact .inl (e ▸ hX hwr)
  · exact .inr (getD_store _ _ (.inl e))

theorem lin_frame {t : Nat} {op : Op V} {i : Nat} (hi : i < n) (hX : writes op = true → (s.thr t).holdsX n hash i = true) :
    (∃ b, b < n ∧ (s.thr t).holdsX n hash b = true) ∨ (s.abs.step op).1.buckets = s.abs.buckets := by
  cases hwr : writes op
  · rw [step_reader _ _ hwr]; exact .inr rfl
  · exact .inl ⟨i, hi, hX hwr⟩

/-! ### every micro-step preserves the invariant

  The nine steps that only move a thread through its lock protocol are `frame` with the lock fact that fits: nothing
  taken (`me_sub`) or one mutex taken that the others left `free` (`me_acquire`).  The three steps that store or
  linearize (`writeS`, `accM`, `linM`) use mutual exclusion twice: the thread's own copy is the bucket of the
  sequential map (`visited_self`, `memA`), and nobody else's thread-local facts are touched (`tok_step`). -/

theorem step_inv {s' : St V} (h : Inv n hash s) (st : Step n hash s s') : Inv n hash s' := by
  cases st with
  | invokeS t op k hi hk =>
    exact frame h hi _ _ (h.me_step t _ (fun _ _ _ hb => by cases hb) (fun _ _ _ _ => rfl)) hk nofun
  | invokeM t op hi hk =>
    exact frame h hi _ _ (h.me_step t _ (fun _ _ _ hb => by cases hb) (fun _ _ _ _ => rfl)) hk nofun
  | acqS t op k hw hfree =>
    have hk := h.tok_at hw
    exact frame h hw _ _ (h.me_acquire hw _ op (hash k % n) (fun b hb => .inr (by simpa [TS.holds] using hb)) rfl rfl hfree)
      hk nofun
  | readS t op k hw =>
    have hk := h.tok_at hw
    exact frame h hw _ _ (h.me_sub hw _ (fun _ hb => hb) (fun _ ho => ho)) ⟨hk, rfl⟩ nofun
  | retS t op k r hw =>
    exact frame h hw _ _ (h.me_sub hw _ (fun _ hb => by cases hb) (fun _ ho => by cases ho)) trivial nofun
  | acqM t op i hw hi hfree =>
    have hk := h.tok_at hw
    exact frame h hw _ _ (h.me_acquire hw _ op i
      (fun b hb => by simp only [TS.holds, decide_eq_true_eq] at hb ⊢; omega) rfl rfl hfree) hk nofun
  | startM t op hw =>
    exact frame h hw _ _ (h.me_sub hw _ (fun _ hb => hb) (fun _ ho => ho))
      ⟨h.tok_at hw, Nat.zero_le n, rfl, fun _ _ hb => absurd hb (Nat.not_lt_zero _)⟩ nofun
  | relM t op i r hw hi =>
    exact frame h hw _ _ (h.me_sub hw _
      (fun b hb => by simp only [TS.holds, Bool.and_eq_true, decide_eq_true_eq] at hb ⊢; omega) (fun _ ho => ho))
      trivial nofun
  | retM t op r hw =>
    exact frame h hw _ _ (h.me_sub hw _ (fun _ hb => by cases hb) (fun _ ho => by cases ho)) trivial nofun
  | writeS t op k l hw =>
    obtain ⟨hk, rfl⟩ := h.tok_at hw
    have hbn : hash k % n < n := Nat.mod_lt _ h.npos
    have hX : writes op = true → (s.thr t).holdsX n hash (hash k % n) = true := fun hwr =>
      hw ▸ holdsX_iff.2 ⟨beq_self_eq_true _, op, rfl, hwr⟩
    -- no `clear` is on its way, so the bucket read is the bucket of the sequential map
    have hnv : ∀ b u, ¬ (s.thr u).visited b := fun b u => h.visited_self hw hbn (beq_self_eq_true _)
    have hmem := h.memA _ hbn (hnv _)
    obtain ⟨hA, hR⟩ := step_single s.abs op k hk
    rw [show s.abs.idx k = hash k % n by simp [Map.idx, h.abshash, h.absn]] at hA hR
    obtain ⟨hLA, hLR⟩ := log_step h t op (resOf op [s.mem.getD (hash k % n) []]) (by rw [hR, hmem])
    obtain ⟨s1, s2, s3⟩ := step_shape s.abs op
    refine ⟨h.npos, List.length_set.trans h.memlen, s1.trans h.absn, s2.trans h.abshash, s3.trans h.abslen,
      h.me_sub hw _ (fun _ hb => hb) (fun _ ho => ho),
      h.tok_step t _ trivial (store_frame hX) (lin_frame hbn hX), fun b hb _ => ?_, hLA, hLR⟩
    show (s.mem.set _ _).getD b [] = (s.abs.step op).1.buckets.getD b []
    rw [hA]
    by_cases e : b = hash k % n
    · rw [e, getD_set_self (h.memlen ▸ hbn), getD_modify_self (h.abslen ▸ hbn), hmem]
    · rw [getD_set_ne (Ne.symm e), getD_modify_ne (Ne.symm e)]
      exact h.memA b hb (hnv b)
  | accM t op i acc hw hi =>
    obtain ⟨hk, -, hacc, hC⟩ := h.tok_at hw
    have hX : writes op = true → (s.thr t).holdsX n hash i = true := fun hwr => hw ▸ holdsX_mAcc hwr hi
    -- the only `clear` that can be on its way is this operation itself
    have hv : ∀ b u, (s.thr u).visited b → writes op = true ∧ b < i := fun b u =>
      h.visited_self hw hi (decide_eq_true hi)
    have hmemi : s.mem.getD i [] = s.abs.buckets.getD i [] := h.memA i hi fun u hv' => Nat.lt_irrefl _ (hv i u hv').2
    refine ⟨h.npos, List.length_set.trans h.memlen, h.absn, h.abshash, h.abslen,
      h.me_sub hw _ (fun _ hb => hb) (fun _ ho => ho),
      h.tok_step t _ ⟨hk, hi, ?_, fun hwr b hb => ?_⟩ (store_frame hX) (.inr rfl),
      fun b hb hnv => ?_, h.logA, h.logR⟩
    · rw [hacc, hmemi, take_succ_getD (h.abslen ▸ hi)]
    · by_cases e : b = i
      · rw [e, getD_set_self (h.memlen ▸ hi), hmemi]
      · rw [getD_store _ _ (.inl e)]; exact hC hwr b (by omega)
    · -- `b` not visited afterwards: this step has not changed it, and it was not visited before
      have hnv' : writes op = true → ¬ b < i + 1 := fun hwr hbi => hnv t (by simp only [upd_same]; exact ⟨hwr, hbi⟩)
      rw [getD_store _ _ (by cases hwr : writes op; exact .inr rfl; exact .inl fun e => hnv' hwr (by omega))]
      exact h.memA b hb fun u hv' => hnv' (hv b u hv').1 (Nat.lt_succ_of_lt (hv b u hv').2)
  | linM t op acc hw =>
    obtain ⟨hk, -, hacc, hC⟩ := h.tok_at hw
    have hX : writes op = true → (s.thr t).holdsX n hash 0 = true := fun hwr => hw ▸ holdsX_mAcc hwr h.npos
    have hv : ∀ b u, (s.thr u).visited b → writes op = true ∧ b < n := fun b u =>
      h.visited_self hw h.npos (decide_eq_true h.npos)
    obtain ⟨hA, hR⟩ := step_multi s.abs op hk
    obtain ⟨hLA, hLR⟩ := log_step h t op (resOf op acc) (by rw [hR, hacc, ← h.abslen, List.take_length])
    obtain ⟨s1, s2, s3⟩ := step_shape s.abs op
    refine ⟨h.npos, h.memlen, s1.trans h.absn, s2.trans h.abshash, s3.trans h.abslen,
      h.me_sub hw _ (fun _ hb => by simpa [TS.holds] using hb) (fun _ ho => ho),
      h.tok_step t _ trivial (fun _ => .inr rfl) (lin_frame h.npos hX), fun b hb _ => ?_, hLA, hLR⟩
    show s.mem.getD b [] = (s.abs.step op).1.buckets.getD b []
    cases hwr : writes op
    · rw [step_reader _ _ hwr]; exact h.memA b hb fun u hv' => by rw [(hv b u hv').1] at hwr; cases hwr
    · rw [hA, hC hwr b hb]; simp [hwr, h.abslen, hb]

end

theorem reach_inv {n : Nat} {hash : Nat → Nat} (hn : 0 < n) {s : St V} (hr : Reach n hash s) : Inv n hash s := by
  induction hr with
  | init => exact init_inv n hash hn
  | step s s' _ st ih => exact step_inv ih st

/-! ### the event history -/

def Ev.tid : Ev V → Nat
  | .inv t _ => t
  | .lin t _ _ => t
  | .ret t _ _ => t

def linOf : Ev V → Option (Nat × Op V × Res V)
  | .lin t op r => some (t, op, r)
  | _ => none

/-- the events of a thread's operation in progress -/
def pend (t : Nat) : TS V → List (Ev V)
  | .idle => []
  | .sWait op _ => [.inv t op]
  | .sHeld op _ => [.inv t op]
  | .sRead op _ _ => [.inv t op]
  | .sDone op _ r => [.inv t op, .lin t op r]
  | .mAcq op _ => [.inv t op]
  | .mAcc op _ _ => [.inv t op]
  | .mRel op _ r => [.inv t op, .lin t op r]

/-- completed operations of thread `t`: invocation, linearization point, return — with one result -/
inductive Complete (t : Nat) : List (Ev V) → Prop where
  | nil : Complete t []
  | snoc (l : List (Ev V)) (op : Op V) (r : Res V) : Complete t l → Complete t (l ++ [.inv t op, .lin t op r, .ret t op r])

def proj (t : Nat) (h : List (Ev V)) : List (Ev V) := h.filter (fun e => e.tid == t)

structure HInv (s : St V) : Prop where
  shape : ∀ t, ∃ pre, Complete t pre ∧ proj t s.hist = pre ++ pend t (s.thr t)
  lins : s.hist.filterMap linOf = s.log

theorem proj_append_other (t u : Nat) (h : List (Ev V)) (e : Ev V) (he : e.tid = t) (hu : u ≠ t) :
    proj u (h ++ [e]) = proj u h := by
  have : (e.tid == u) = false := by rw [he]; simpa using (Ne.symm hu)
  simp [proj, List.filter_append, this]

theorem proj_append_self (t : Nat) (h : List (Ev V)) (e : Ev V) (he : e.tid = t) :
    proj t (h ++ [e]) = proj t h ++ [e] := by
  simp [proj, List.filter_append, he]

theorem hframe {s : St V} (h : HInv s) (t : Nat) (ts' : TS V) (hp : pend t ts' = pend t (s.thr t))
    (mem' : List (Bucket V)) :
    HInv { s with mem := mem', thr := upd s.thr t ts' } := by
  refine ⟨?_, h.lins⟩
  intro u
  obtain ⟨pre, hc, hpj⟩ := h.shape u
  refine ⟨pre, hc, ?_⟩
  by_cases e : u = t
  · subst e; simp only [upd_same, hp]; exact hpj
  · simp only [upd, e, if_false]; exact hpj

theorem hgrow {s : St V} (h : HInv s) (t : Nat) (ts' : TS V) (e : Ev V) (he : e.tid = t)
    (hp : pend t ts' = pend t (s.thr t) ++ [e]) (mem' : List (Bucket V)) (abs' : Map V)
    (log' : List (Nat × Op V × Res V)) (hl : log' = s.log ++ (linOf e).toList) :
    HInv { s with mem := mem', thr := upd s.thr t ts', abs := abs', log := log', hist := s.hist ++ [e] } := by
  refine ⟨?_, by rw [hl, ← h.lins, List.filterMap_append]; cases hl : linOf e <;> simp [hl]⟩
  intro u
  obtain ⟨pre, hc, hpj⟩ := h.shape u
  by_cases eu : u = t
  · subst eu
    refine ⟨pre, hc, ?_⟩
    simp only [upd_same, hp, proj_append_self u _ e he, hpj, List.append_assoc]
  · exact ⟨pre, hc, by simp only [upd, eu, if_false]; rw [proj_append_other t u _ e he eu]; exact hpj⟩

theorem hret {s : St V} (h : HInv s) (t : Nat) (op : Op V) (r : Res V)
    (hp : pend t (s.thr t) = [.inv t op, .lin t op r]) :
    HInv { s with thr := upd s.thr t .idle, hist := s.hist ++ [.ret t op r] } := by
  refine ⟨?_, by rw [List.filterMap_append, h.lins]; exact List.append_nil _⟩
  intro u
  obtain ⟨pre, hc, hpj⟩ := h.shape u
  by_cases eu : u = t
  · subst eu
    refine ⟨_, Complete.snoc pre op r hc, ?_⟩
    rw [proj_append_self u _ (.ret u op r) rfl, hpj, hp]
    simp [pend]
  · exact ⟨pre, hc, by simp only [upd, eu, if_false]; rw [proj_append_other t u _ (.ret t op r) rfl eu]; exact hpj⟩

theorem step_hinv {n : Nat} {hash : Nat → Nat} {s s' : St V} (h : HInv s) (st : Step n hash s s') : HInv s' := by
  cases st with
  | invokeS t op k hi hk =>
    exact hgrow h t _ (.inv t op) rfl (by rw [hi]; rfl) s.mem s.abs s.log (List.append_nil _).symm
  | invokeM t op hi hk =>
    exact hgrow h t _ (.inv t op) rfl (by rw [hi]; rfl) s.mem s.abs s.log (List.append_nil _).symm
  | acqS t op k hw hfree => exact hframe h t _ (by rw [hw]; rfl) s.mem
  | readS t op k hw => exact hframe h t _ (by rw [hw]; rfl) s.mem
  | writeS t op k l hw =>
    exact hgrow h t _ (.lin t op (resOf op [l])) rfl (by rw [hw]; rfl) _ _ _ rfl
  | retS t op k r hw => exact hret h t op r (by rw [hw]; rfl)
  | acqM t op i hw hi hfree => exact hframe h t _ (by rw [hw]; rfl) s.mem
  | startM t op hw => exact hframe h t _ (by rw [hw]; rfl) s.mem
  | accM t op i acc hw hi => exact hframe h t _ (by rw [hw]; rfl) _
  | linM t op acc hw =>
    exact hgrow h t _ (.lin t op (resOf op acc)) rfl (by rw [hw]; rfl) s.mem _ _ rfl
  | relM t op i r hw hi => exact hframe h t _ (by rw [hw]; rfl) s.mem
  | retM t op r hw => exact hret h t op r (by rw [hw]; rfl)

theorem reach_hinv {n : Nat} {hash : Nat → Nat} {s : St V} (hr : Reach n hash s) : HInv s := by
  induction hr with
  | init => exact ⟨fun t => ⟨[], Complete.nil, by simp [St.init, proj, pend]⟩, rfl⟩
  | step s s' _ st ih => exact step_hinv ih st

theorem complete_ret_lin (t : Nat) (l : List (Ev V)) (hc : Complete t l) (u : Nat) (op : Op V) (r : Res V)
    (hm : Ev.ret u op r ∈ l) : Ev.lin u op r ∈ l := by
  induction hc with
  | nil => simp at hm
  | snoc l op' r' _ ih =>
    simp only [List.mem_append, List.mem_cons, List.not_mem_nil, or_false] at hm ⊢
    rcases hm with hm | hm | hm | hm
    · exact Or.inl (ih hm)
    · cases hm
    · cases hm
    · cases hm; exact Or.inr (Or.inr (Or.inl rfl))

theorem pend_no_ret (t : Nat) (ts : TS V) (u : Nat) (op : Op V) (r : Res V) : Ev.ret u op r ∉ pend t ts := by
  cases ts <;> simp [pend]

/-- **C18, every schedule.**  In every state reachable under ANY interleaving of the micro-steps of any number of
    threads:
    1. the linearization points, in the order in which they occur, form a run of the SEQUENTIAL map from the empty map,
       and the result each of them carries is the result of that sequential run (`C18_seq` then says: of an ordinary map);
    2. every thread's events are `invocation, linearization point, return` triples in program order, followed by the
       events of its operation in progress — so each linearization point lies between invocation and return, and
       the value returned is the value at the linearization point;
    3. whenever no operation is in progress, the buckets in memory are exactly those of the sequential map. -/
theorem C18_linearizable (n : Nat) (hash : Nat → Nat) (hn : 0 < n) (s : St V) (hr : Reach n hash s) :
    ((Map.empty n hash).run (opsOf (s.hist.filterMap linOf))).2 = ressOf (s.hist.filterMap linOf) ∧
    (∀ t, ∃ pre, Complete t pre ∧ proj t s.hist = pre ++ pend t (s.thr t)) ∧
    ((∀ t, s.thr t = .idle) → s.mem = ((Map.empty n hash).run (opsOf (s.hist.filterMap linOf))).1.buckets) := by
  have hI := reach_inv hn hr
  have hH := reach_hinv hr
  rw [hH.lins]
  refine ⟨hI.logR, hH.shape, ?_⟩
  intro hidle
  rw [← hI.logA]
  refine List.ext_getElem (hI.memlen.trans hI.abslen.symm) fun b h1 h2 => ?_
  have := hI.memA b (hI.memlen ▸ h1) fun t ht => by rw [hidle t] at ht; exact ht
  rwa [← List.getElem_eq_getD, ← List.getElem_eq_getD] at this

/-- every value returned is the value of the operation's linearization point -/
theorem C18_returned (n : Nat) (hash : Nat → Nat) (s : St V) (hr : Reach n hash s) (t : Nat) (op : Op V) (r : Res V)
    (hm : Ev.ret t op r ∈ s.hist) : Ev.lin t op r ∈ s.hist := by
  obtain ⟨pre, hc, hpj⟩ := (reach_hinv hr).shape t
  have h1 : Ev.ret t op r ∈ proj t s.hist := by simp [proj, hm, Ev.tid]
  rw [hpj, List.mem_append] at h1
  rcases h1 with h1 | h1
  · have := complete_ret_lin t pre hc t op r h1
    have h2 : Ev.lin t op r ∈ proj t s.hist := by rw [hpj]; exact List.mem_append_left _ this
    exact (List.mem_filter.1 h2).1
  · exact (pend_no_ret t _ t op r h1).elim

/-- the tie to the source: the mutex mode of each operation in the interleaving model (`writes`) is the mode the C++
    uses NOW (`Gen.lockExclusive`, re-extracted from threadsafe_hash_map.hpp on every run: `lock_guard` / `unique_lock`
    = exclusive, `shared_lock` = shared; the extraction also requires that the whole-map operations take every mutex
    before they touch the first bucket) -/
theorem C18_lock_modes_match :
    Gen.lockExclusive =
      [("value_for", writes (Op.find 0 : Op Unit)), ("add_or_update_mapping", writes (Op.insert 0 () : Op Unit)),
       ("remove_mapping", writes (Op.erase 0 : Op Unit)), ("empty", writes (Op.isEmpty : Op Unit)),
       ("data", writes (Op.data : Op Unit)), ("clear", writes (Op.clear : Op Unit))] := rfl

/-- non-vacuity: states with two operations of two threads in progress on the same bucket — one holding the mutex
    with the bucket already read, the other waiting for it — are reachable -/
example : ∃ s : St Nat, Reach 1 (fun k => k) s ∧ s.hist.length = 2 ∧
    s.thr 0 = .sRead (.insert 1 7) 1 [] ∧ s.thr 1 = .sWait (.find 1) 1 := by
  refine ⟨_, Reach.step _ _ (Reach.step _ _ (Reach.step _ _ (Reach.step _ _ Reach.init
    (Step.invokeS _ 0 (.insert 1 7) 1 rfl rfl))
    (Step.invokeS _ 1 (.find 1) 1 (by simp [upd, St.init]) rfl))
    (Step.acqS _ 0 (.insert 1 7) 1 (by simp [upd]) (by intro u hu; by_cases h1 : u = 1 <;> simp [free, writes, upd, hu, h1, TS.holds, St.init])))
    (Step.readS _ 0 (.insert 1 7) 1 (by simp [upd])), ?_⟩
  simp [St.init, upd]

end Via.HM.Conc
