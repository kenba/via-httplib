import ViaModel.Encode
import ViaProofs.C08
import ViaProofs.Lemmas.ByteClass
import ViaProofs.Lemmas.Run
import ViaProofs.Frag.Scan
import ViaProofs.Rx.Req
import ViaProofs.Rx.Resp
/-
  Message-level round trips (C08, and the "what the library emits its own parser accepts" half of C04):

  * `RT.requestLine_roundtrip`   `request_line::to_string` → `request_line::parse`
  * `RT.headerLine_roundtrip`    `header_field::to_header` → `field_line::parse` (inside the header loop)
  * `RT.headers_roundtrip`       any list of header lines + blank line → `message_headers::parse`
  * `RT.request_roundtrip`       `tx_request::message(n)` followed by `n` body bytes → `request_receiver::receive`
  * the response-side analogues (`statusLine_roundtrip`, `response_roundtrip`)
  * `RT.chunkHeader_roundtrip`, `RT.chunk_roundtrip`, `RT.lastChunk_roundtrip` and the chunk streams through both receivers

  All for EVERY method / target / version / header list / body that meets the stated validity conditions and every
  receiver configuration whose limits admit them, with anything at all following the message in the same read.

  A line parser is taken through its encoding segment by segment: a run of bytes of one class by `run_bytes`, with the
  state after each prefix of the run given in closed form (`statusSt`, `reasonSt`, `valueSt`, `sizeSt`, `extSt`; `hdrSt`
  for a run of header lines); the punctuation between the runs by evaluation.
-/
namespace Via
namespace RT

theorem rl_method (cfg : Cfg) (ms rest : Bytes) (hu : ∀ c ∈ ms, isUpper c = true) (hl : ms.length ≤ cfg.maxMethod) :
    RL.loop cfg {} (ms ++ rest) = RL.loop cfg { method := ms } rest := by
  refine run_bytes (RL.loop cfg) (fun pre => { method := pre }) ms rest fun pre c suf e => ?_
  obtain ⟨hm, hlen, _⟩ := run_pos e
  simp [RL.loop, RL.parseChar, hu c hm, Nat.not_lt.2 (Nat.le_trans hlen hl)]

theorem rl_uri (cfg : Cfg) (m us rest : Bytes) (hu : ∀ c ∈ us, isEol c = false ∧ isBlank c = false)
    (hl : us.length ≤ cfg.maxUri) :
    RL.loop cfg { method := m, ws := 1, st := .uri } (us ++ rest) =
      RL.loop cfg { method := m, uri := us, ws := 1, st := .uri } rest := by
  refine run_bytes (RL.loop cfg) (fun pre => { method := m, uri := pre, ws := 1, st := .uri }) us rest
    fun pre c suf e => ?_
  obtain ⟨hm, hlen, _⟩ := run_pos e
  simp [RL.loop, RL.parseChar, hu c hm, Nat.not_lt.2 (Nat.le_trans hlen hl)]

theorem upper_not_blank (c : Byte) : isUpper c = true → isBlank c = false := by
  simp only [← Bool.not_eq_true, isUpper_iff, isBlank_iff]; omega

theorem requestLine_roundtrip (cfg : Cfg) (m u : Bytes) (maj min : Byte) (rest : Bytes)
    (hm0 : m ≠ []) (hm : ∀ c ∈ m, isUpper c = true) (hml : m.length ≤ cfg.maxMethod)
    (hu0 : u ≠ []) (hu : ∀ c ∈ u, isEol c = false ∧ isBlank c = false) (hul : u.length ≤ cfg.maxUri)
    (hmaj : isDigit maj = true) (hmin : isDigit min = true) :
    RL.parse cfg {} (Enc.requestLine m u maj min ++ rest) =
      ({ method := m, uri := u, major := maj, minor := min, st := .valid, ws := 1, valid := true }, rest, true) := by
  have hE : Enc.requestLine m u maj min ++ rest =
      m ++ (32 :: (u ++ (32 :: 72 :: 84 :: 84 :: 80 :: 47 :: maj :: 46 :: min :: 13 :: 10 :: rest))) := by
    simp only [Enc.requestLine, List.append_assoc]
    rfl
  have sp : ∀ tail, RL.loop cfg { method := m } (32 :: tail) = RL.loop cfg { method := m, ws := 1, st := .uri } tail := by
    intro tail
    simp +decide [RL.loop, RL.parseChar, hm0]
  have version : RL.loop cfg { method := m, uri := u, ws := 1, st := .uri }
        (32 :: 72 :: 84 :: 84 :: 80 :: 47 :: maj :: 46 :: min :: 13 :: 10 :: rest) =
      RL.loop cfg { method := m, uri := u, major := maj, minor := min, st := .valid, ws := 1 } rest := by
    simp +decide [RL.loop, RL.parseChar, hu0, hmaj, hmin]
  rw [RL.parse, hE, rl_method cfg m _ hm hml, sp, rl_uri cfg m u _ hu hul, version, RL.loop_of_valid cfg _ rest rfl]
  simp

def statusSt (maj min : Byte) (pre : Bytes) : SL :=
  { major := maj, minor := min, st := .status, ws := 1, status := digitsVal 10 pre, statusRead := !pre.isEmpty }

theorem sl_status (cfg : Cfg) (maj min : Byte) (ds rest : Bytes) (hd : ∀ c ∈ ds, isDigit c = true)
    (hl : digitsVal 10 ds ≤ cfg.maxUri) :
    SL.loop cfg (statusSt maj min []) (ds ++ rest) = SL.loop cfg (statusSt maj min ds) rest := by
  refine run_bytes (SL.loop cfg) (statusSt maj min) ds rest fun pre c suf e => ?_
  have hc : isDigit c = true := hd c (run_pos e).1
  have hv : digitsVal 10 pre * 10 + (c.toNat - 48) = digitsVal 10 (pre ++ [c]) := by
    simp [C08.digitsVal_snoc, hexDigitVal, hc]
  have h1 : ¬ (cfg.maxUri < digitsVal 10 (pre ++ [c])) := by
    have := C08.digitsVal_le_append 10 (by decide) (pre ++ [c]) suf
    rw [List.append_assoc, List.singleton_append, ← e] at this
    exact Nat.not_lt.2 (Nat.le_trans this hl)
  have hne : (pre ++ [c]).isEmpty = false := by cases pre <;> rfl
  simp [statusSt, SL.loop, SL.parseChar, hc, hv, h1, hne]

def reasonSt (maj min : Byte) (st : Nat) (pre : Bytes) : SL :=
  { major := maj, minor := min, st := .reason, ws := 1, status := st, statusRead := true, reason := pre }

theorem sl_reason (cfg : Cfg) (maj min : Byte) (st : Nat) (rs rest : Bytes) (he : ∀ c ∈ rs, isEol c = false)
    (hlead : ∀ c, rs.head? = some c → isBlank c = false) (hl : rs.length ≤ cfg.maxMethod) :
    SL.loop cfg (reasonSt maj min st []) (rs ++ rest) = SL.loop cfg (reasonSt maj min st rs) rest := by
  refine run_bytes (SL.loop cfg) (reasonSt maj min st) rs rest fun pre c suf e => ?_
  obtain ⟨hm, hlen, hhd⟩ := run_pos e
  have hb : ¬ (pre = [] ∧ isBlank c = true) := fun h => by simp [hlead c (hhd h.1)] at h
  simp [reasonSt, SL.loop, SL.parseChar, he c hm, hb, Nat.not_lt.2 (Nat.le_trans hlen hl)]

-- `response_line` checks the status against `MAX_STATUS_NUMBER` and the reason against `MAX_REASON_LENGTH`, which the
-- model keeps in the fields `maxUri` and `maxMethod` (ViaModel/Cfg.lean)
structure StatusOk (cfg : Cfg) (maj min : Byte) (status : Nat) (reason : Bytes) : Prop where
  major_digit : isDigit maj = true
  minor_digit : isDigit min = true
  status_fits : status ≤ cfg.maxUri
  reason_ok : ∀ c ∈ reason, isEol c = false
  reason_lead : ∀ c, reason.head? = some c → isBlank c = false
  reason_fits : reason.length ≤ cfg.maxMethod

theorem statusLine_roundtrip (cfg : Cfg) (maj min : Byte) (status : Nat) (reason rest : Bytes)
    (ok : StatusOk cfg maj min status reason) :
    SL.parse cfg {} (Enc.responseLine maj min (status : Int) reason ++ rest) =
      ({ status := status, reason := reason, major := maj, minor := min, st := .valid, ws := 1, statusRead := true,
         valid := true }, rest, true) := by
  obtain ⟨d1, d2, d3⟩ := C08.dec_digits status
  have hE : Enc.responseLine maj min (status : Int) reason ++ rest =
      72 :: 84 :: 84 :: 80 :: 47 :: maj :: 46 :: min :: 32 :: (toDecString status ++ (32 :: (reason ++ 13 :: 10 :: rest))) := by
    simp only [Enc.responseLine, intToDecString_natCast, List.append_assoc]
    rfl
  have version : ∀ tail, SL.loop cfg {} (72 :: 84 :: 84 :: 80 :: 47 :: maj :: 46 :: min :: 32 :: tail) =
      SL.loop cfg (statusSt maj min []) tail := by
    intro tail
    simp +decide [statusSt, SL.loop, SL.parseChar, ok.major_digit, ok.minor_digit, digitsVal]
  have sp : ∀ tail, SL.loop cfg (statusSt maj min (toDecString status)) (32 :: tail) =
      SL.loop cfg (reasonSt maj min status []) tail := by
    intro tail
    simp +decide [statusSt, reasonSt, SL.loop, SL.parseChar, d3, show (toDecString status).isEmpty = false by simpa using d1]
  have crlf : SL.loop cfg (reasonSt maj min status reason) (13 :: 10 :: rest) =
      ({ reasonSt maj min status reason with st := .valid }, rest, false) := by
    simp +decide [reasonSt, SL.loop, SL.parseChar, SL.crStep, SL.loop_of_valid]
  rw [SL.parse, hE, version, sl_status cfg maj min _ _ d2 (by rw [d3]; exact ok.status_fits), sp,
    sl_reason cfg maj min status reason _ ok.reason_ok ok.reason_lead ok.reason_fits, crlf]
  simp [reasonSt]

theorem peek_not_valid (s : FL) (buf : Bytes) (h : s.st ≠ .valid) : s.peek buf = s := by
  cases buf with
  | nil => rfl
  | cons d ds => simp [FL.peek, h]

theorem fl_name (cfg : Cfg) (ns rest : Bytes) (hn : ∀ c ∈ ns, nameByteOk c = true) (hl : ns.length ≤ cfg.maxLine) :
    FL.loop cfg {} (ns ++ rest) = FL.loop cfg { name := lowerBytes ns, length := ns.length } rest := by
  refine run_bytes (FL.loop cfg) (fun pre => { name := lowerBytes pre, length := pre.length }) ns rest
    fun pre c suf e => ?_
  obtain ⟨hm, hlen, _⟩ := run_pos e
  have hg : isGraph c = true ∧ isSeparator c = false := by simpa [nameByteOk] using hn c hm
  simp [FL.loop, FL.parseChar, peek_not_valid, hg, Nat.not_lt.2 (Nat.le_trans hlen hl), lowerBytes]

def valueSt (nm pre : Bytes) (L : Nat) : FL :=
  { name := nm, value := pre, length := L + pre.length, ws := 1, st := if pre.isEmpty then .valueLs else .value }

theorem fl_value (cfg : Cfg) (nm vs rest : Bytes) (L : Nat) (hv : ∀ c ∈ vs, isEol c = false)
    (hlead : ∀ c, vs.head? = some c → isBlank c = false) (hl : L + vs.length ≤ cfg.maxLine) :
    FL.loop cfg (valueSt nm [] L) (vs ++ rest) = FL.loop cfg (valueSt nm vs L) rest := by
  refine run_bytes (FL.loop cfg) (valueSt nm · L) vs rest fun pre c suf e => ?_
  obtain ⟨hm, hlen, hhd⟩ := run_pos e
  have h1 : L + pre.length + 1 ≤ cfg.maxLine := Nat.le_trans (Nat.add_le_add_left hlen L) hl
  cases pre with
  | nil =>
    simp [valueSt, FL.loop, FL.parseChar, FL.valueStep, peek_not_valid, hv c hm, hlead c (hhd rfl),
      show ¬ cfg.maxLine < L + 1 from Nat.not_lt.2 h1]
  | cons p ps =>
    simp [valueSt, FL.loop, FL.parseChar, FL.valueStep, peek_not_valid, hv c hm,
      show ¬ cfg.maxLine < L + (ps.length + 1) + 1 from Nat.not_lt.2 h1]
    rw [Nat.add_assoc]

structure LineOk (cfg : Cfg) (n v : Bytes) : Prop where
  name_ne : n ≠ []
  name_ok : ∀ c ∈ n, nameByteOk c = true
  value_ok : ∀ c ∈ v, isEol c = false
  value_lead : ∀ c, v.head? = some c → isBlank c = false
  fits : n.length + v.length + 4 ≤ cfg.maxLine

theorem fl_crlf (cfg : Cfg) (s : FL) (d : Byte) (rest : Bytes) (hst : s.st = .valueLs ∨ s.st = .value)
    (hl : s.length + 2 ≤ cfg.maxLine) (hd : isBlank d = false) :
    FL.loop cfg s (13 :: 10 :: d :: rest) = ({ s with length := s.length + 2, st := .valid }, d :: rest, true) := by
  have l1 : ¬ (cfg.maxLine < s.length + 1) := Nat.not_lt.2 (Nat.le_of_succ_le hl)
  have l2 : ¬ (cfg.maxLine < s.length + 1 + 1) := Nat.not_lt.2 hl
  rcases hst with h | h <;>
    simp +decide [FL.loop, FL.parseChar, FL.valueStep, FL.peek, h, l1, l2, hd]

/-- the `field_line` loop looks one byte past CR LF (`FL.peek`): a blank there would fold the next line into this value,
    hence `d` and `hd` -/
theorem headerLine_roundtrip (cfg : Cfg) (n v : Bytes) (d : Byte) (rest : Bytes) (ok : LineOk cfg n v)
    (hws : 1 ≤ cfg.maxWs) (hd : isBlank d = false) :
    FL.loop cfg {} (Enc.toHeader n v ++ d :: rest) =
      ({ name := lowerBytes n, value := v, length := n.length + v.length + 4, ws := 1, st := .valid },
        d :: rest, true) := by
  have hE : Enc.toHeader n v ++ d :: rest = n ++ (58 :: 32 :: (v ++ (13 :: 10 :: d :: rest))) := by
    simp only [Enc.toHeader, List.append_assoc]
    rfl
  have h4 : n.length + 2 + v.length + 2 ≤ cfg.maxLine := by have := ok.fits; omega
  have h3 := Nat.le_of_add_right_le h4
  have h2 := Nat.le_of_add_right_le h3
  have l1 : ¬ (cfg.maxLine < n.length + 1) := Nat.not_lt.2 (Nat.le_of_succ_le h2)
  have l2 : ¬ (cfg.maxLine < n.length + 1 + 1) := Nat.not_lt.2 h2
  have sep : ∀ tail, FL.loop cfg { name := lowerBytes n, length := n.length } (58 :: 32 :: tail) =
      FL.loop cfg (valueSt (lowerBytes n) [] (n.length + 2)) tail := by
    intro tail
    simp +decide [FL.loop, FL.parseChar, peek_not_valid, valueSt, l1, l2, Nat.not_lt.2 hws]
  rw [hE, fl_name cfg n _ ok.name_ok (Nat.le_of_add_right_le h2), sep, fl_value cfg _ v _ _ ok.value_ok ok.value_lead h3,
    fl_crlf cfg _ d rest (by cases v <;> simp [valueSt]) h4 hd]
  simp [valueSt]
  omega

abbrev HdrList := List (Bytes × Bytes)

/-- the header string an application gets from repeated `add_header(name, value)` -/
def encHeaders (hs : HdrList) : Bytes := hs.flatMap (fun p => Enc.toHeader p.1 p.2)

/-- what `message_headers` holds after the lines of `hs`: lower-case names, repeated names joined -/
def fieldsOf (fs : Fields) (hs : HdrList) : Fields := hs.foldl (fun fs p => fs.add (lowerBytes p.1) p.2) fs

def totalLen (hs : HdrList) : Nat := (hs.map (fun p => p.1.length + p.2.length)).sum

@[simp] theorem encHeaders_nil : encHeaders [] = [] := rfl
@[simp] theorem encHeaders_cons (p : Bytes × Bytes) (hs : HdrList) :
    encHeaders (p :: hs) = Enc.toHeader p.1 p.2 ++ encHeaders hs := by simp [encHeaders]
theorem encHeaders_append (a b : HdrList) : encHeaders (a ++ b) = encHeaders a ++ encHeaders b := by
  simp [encHeaders]

@[simp] theorem fieldsOf_nil (fs : Fields) : fieldsOf fs [] = fs := rfl
@[simp] theorem fieldsOf_cons (fs : Fields) (p : Bytes × Bytes) (hs : HdrList) :
    fieldsOf fs (p :: hs) = fieldsOf (fs.add (lowerBytes p.1) p.2) hs := rfl
theorem fieldsOf_append (fs : Fields) (a b : HdrList) : fieldsOf fs (a ++ b) = fieldsOf (fieldsOf fs a) b := by
  simp [fieldsOf, List.foldl_append]

@[simp] theorem totalLen_nil : totalLen [] = 0 := rfl
@[simp] theorem totalLen_cons (p : Bytes × Bytes) (hs : HdrList) :
    totalLen (p :: hs) = p.1.length + p.2.length + totalLen hs := by simp [totalLen]
@[simp] theorem totalLen_append (a b : HdrList) : totalLen (a ++ b) = totalLen a + totalLen b := by
  simp [totalLen]

theorem toHeader_head (n v : Bytes) (hn : n ≠ []) (hok : ∀ c ∈ n, nameByteOk c = true) (tail : Bytes) :
    ∃ c cs, Enc.toHeader n v ++ tail = c :: cs ∧ isEol c = false ∧ isBlank c = false := by
  obtain ⟨c, cs, rfl⟩ := List.exists_cons_of_ne_nil hn
  have hg : isGraph c = true ∧ isSeparator c = false := by simpa [nameByteOk] using hok c (by simp)
  exact ⟨c, cs ++ (Gen.cSEPARATOR ++ (v ++ (Enc.crlf ++ tail))), by simp [Enc.toHeader], graph_not_eol_blank c hg.1⟩

theorem next_head (cfg : Cfg) (hs : HdrList) (rest : Bytes) (hok : ∀ p ∈ hs, LineOk cfg p.1 p.2) :
    ∃ d ds, encHeaders hs ++ 13 :: 10 :: rest = d :: ds ∧ isBlank d = false := by
  cases hs with
  | nil => exact ⟨13, 10 :: rest, by simp, by decide⟩
  | cons p hs =>
    have ok := hok p (by simp)
    obtain ⟨c, cs, h, _, hb⟩ := toHeader_head p.1 p.2 ok.name_ne ok.name_ok (encHeaders hs ++ 13 :: 10 :: rest)
    exact ⟨c, cs, by simpa using h, hb⟩

theorem fresh_line (cfg : Cfg) (h : MH) (n v : Bytes) (d : Byte) (ds : Bytes) (ok : LineOk cfg n v)
    (hws : 1 ≤ cfg.maxWs) (hd : isBlank d = false) (c1 : h.length + (n.length + v.length) ≤ cfg.maxHdrLen)
    (c2 : h.number + 1 ≤ cfg.maxHdrNum) :
    MH.fresh cfg h (Enc.toHeader n v ++ d :: ds) =
      MH.fresh cfg { h with length := h.length + (n.length + v.length), number := h.number + 1,
                            fields := h.fields.add (lowerBytes n) v, field := {} } (d :: ds) := by
  obtain ⟨c, cs, hc, hce, _⟩ := toHeader_head n v ok.name_ne ok.name_ok (d :: ds)
  rw [hc, MH.fresh, ← hc, headerLine_roundtrip cfg n v d ds ok hws hd]
  simp [hce, MH.commit, Nat.not_lt.2 c1, Nat.not_lt.2 c2, lowerBytes]

def hdrSt (pre : HdrList) : MH :=
  { fields := fieldsOf [] pre, number := pre.length, length := totalLen pre }

theorem headers_roundtrip (cfg : Cfg) (hs : HdrList) (rest : Bytes) (hws : 1 ≤ cfg.maxWs)
    (hok : ∀ p ∈ hs, LineOk cfg p.1 p.2) (hl : totalLen hs ≤ cfg.maxHdrLen) (hn : hs.length ≤ cfg.maxHdrNum) :
    MH.parse cfg {} (encHeaders hs ++ 13 :: 10 :: rest) =
      ({ fields := fieldsOf [] hs, valid := true, blankCr := true, number := hs.length, length := totalLen hs },
        rest, true) := by
  have lines := run_segments (MH.fresh cfg) (fun p => Enc.toHeader p.1 p.2) hdrSt hs (13 :: 10 :: rest)
    fun pre p suf e => by
      obtain ⟨hm, hlen, _⟩ := run_pos e
      obtain ⟨d, ds, hd, hdb⟩ := next_head cfg suf rest fun q hq => hok q (by simp [e, hq])
      have c1 : totalLen pre + (p.1.length + p.2.length) ≤ cfg.maxHdrLen := Nat.le_trans (by simp [e]) hl
      show MH.fresh cfg (hdrSt pre) (Enc.toHeader p.1 p.2 ++ (encHeaders suf ++ 13 :: 10 :: rest)) =
        MH.fresh cfg (hdrSt (pre ++ [p])) (encHeaders suf ++ 13 :: 10 :: rest)
      rw [hd, fresh_line cfg _ p.1 p.2 d ds (hok p hm) hws hdb c1 (Nat.le_trans hlen hn)]
      simp [hdrSt, fieldsOf_append]
  have : MH.parse cfg {} = MH.fresh cfg (hdrSt []) := by funext buf; simp [MH.parse, FL.started, hdrSt]
  rw [this]
  show MH.fresh cfg (hdrSt []) (hs.flatMap _ ++ _) = _
  rw [lines, MH.fresh]
  simp +decide [MH.blank, hdrSt]

def sizeSt (pre : Bytes) : CH :=
  { length := pre.length, hexSize := pre, st := if pre.isEmpty then .sizeLs else .size }

theorem ch_size (cfg : Cfg) (ds rest : Bytes) (hx : ∀ c ∈ ds, isXDigit c = true)
    (hsz : ds.length ≤ Gen.maxSizeDigits) (hl : ds.length ≤ cfg.maxLine) :
    CH.loop cfg {} (ds ++ rest) = CH.loop cfg (sizeSt ds) rest := by
  refine run_bytes (CH.loop cfg) sizeSt ds rest fun pre c suf e => ?_
  obtain ⟨hm, hlen, _⟩ := run_pos e
  have hc := hx c hm
  have h1 := Nat.le_trans hlen hl
  have h2 := Nat.le_trans hlen hsz
  cases pre with
  | nil =>
    simp [sizeSt, CH.loop, CH.parseChar, CH.sizeStep, hc, xdigit_not_blank c hc,
      show ¬ cfg.maxLine < 1 from Nat.not_lt.2 h1, show ¬ Gen.maxSizeDigits < 1 from Nat.not_lt.2 h2]
  | cons p ps =>
    simp [sizeSt, CH.loop, CH.parseChar, CH.sizeStep, hc,
      show ¬ cfg.maxLine < ps.length + 1 + 1 from Nat.not_lt.2 h1,
      show ¬ Gen.maxSizeDigits < ps.length + 1 + 1 from Nat.not_lt.2 h2]

def extSt (n : Nat) (h pre : Bytes) : CH :=
  { size := n, length := h.length + 2 + pre.length, ws := 1, hexSize := h, ext := pre,
    st := if pre.isEmpty then .extensionLs else .extension, sizeRead := true }

theorem ch_semi (cfg : Cfg) (h rest : Bytes) (n : Nat) (hne : h ≠ []) (hn : chunkSizeOf h = n) (hc : n ≤ cfg.maxChunk)
    (hws : 1 ≤ cfg.maxWs) (hl : h.length + 2 ≤ cfg.maxLine) :
    CH.loop cfg (sizeSt h) (59 :: 32 :: rest) = CH.loop cfg (extSt n h []) rest := by
  have h1 : ¬ (cfg.maxLine < h.length + 1) := Nat.not_lt.2 (Nat.le_of_succ_le hl)
  have h2 : ¬ (cfg.maxLine < h.length + 1 + 1) := Nat.not_lt.2 hl
  have h3 : ¬ (cfg.maxChunk < n) := Nat.not_lt.2 hc
  have h4 : ¬ (cfg.maxWs < 1) := Nat.not_lt.2 hws
  simp +decide [sizeSt, hne, CH.loop, CH.parseChar, CH.sizeStep, extSt, h1, h2, h3, h4, hn]

theorem ch_ext (cfg : Cfg) (h es rest : Bytes) (n : Nat) (hx : ∀ c ∈ es, isEol c = false)
    (hlead : ∀ c, es.head? = some c → isBlank c = false) (hl : h.length + 2 + es.length ≤ cfg.maxLine) :
    CH.loop cfg (extSt n h []) (es ++ rest) = CH.loop cfg (extSt n h es) rest := by
  refine run_bytes (CH.loop cfg) (extSt n h) es rest fun pre c suf e => ?_
  obtain ⟨hm, hlen, hhd⟩ := run_pos e
  have h1 : h.length + 2 + pre.length + 1 ≤ cfg.maxLine := Nat.le_trans (Nat.add_le_add_left hlen _) hl
  cases pre with
  | nil =>
    simp [extSt, CH.loop, CH.parseChar, CH.extStep, hx c hm, hlead c (hhd rfl),
      show ¬ cfg.maxLine < h.length + 2 + 1 from Nat.not_lt.2 h1]
  | cons p ps =>
    simp [extSt, CH.loop, CH.parseChar, CH.extStep, hx c hm,
      show ¬ cfg.maxLine < h.length + 2 + (ps.length + 1) + 1 from Nat.not_lt.2 h1]
    rw [Nat.add_assoc]

theorem ch_size_crlf (cfg : Cfg) (h rest : Bytes) (n : Nat) (hne : h ≠ []) (hn : chunkSizeOf h = n)
    (hc : n ≤ cfg.maxChunk) (hl : h.length + 2 ≤ cfg.maxLine) :
    CH.loop cfg (sizeSt h) (13 :: 10 :: rest) =
      ({ sizeSt h with size := n, length := h.length + 2, st := .valid, sizeRead := true }, rest, false) := by
  have h1 : ¬ (cfg.maxLine < h.length + 1) := Nat.not_lt.2 (Nat.le_of_succ_le hl)
  have h2 : ¬ (cfg.maxLine < h.length + 1 + 1) := Nat.not_lt.2 hl
  have h3 : ¬ (cfg.maxChunk < n) := Nat.not_lt.2 hc
  simp +decide [sizeSt, hne, CH.loop, CH.parseChar, CH.sizeStep, h1, h2, h3, hn, CH.loop_of_valid]

theorem ch_ext_crlf (cfg : Cfg) (s : CH) (rest : Bytes) (hst : s.st = .extension)
    (hl : s.length + 2 ≤ cfg.maxLine) :
    CH.loop cfg s (13 :: 10 :: rest) = ({ s with length := s.length + 2, st := .valid }, rest, false) := by
  have h1 : ¬ (cfg.maxLine < s.length + 1) := Nat.not_lt.2 (Nat.le_of_succ_le hl)
  have h2 : ¬ (cfg.maxLine < s.length + 1 + 1) := Nat.not_lt.2 hl
  simp +decide [CH.loop, CH.parseChar, CH.extStep, hst, h1, h2, CH.loop_of_valid]

-- `digits`: `Gen.maxSizeDigits` is re-extracted from chunk.hpp on every run; 16 hex digits hold every size up to
-- `LONG_MAX` (`C08.hex_length`)
structure ChunkHdrOk (cfg : Cfg) (n : Nat) (ext : Bytes) : Prop where
  size_fits : n ≤ cfg.maxChunk
  size_max : n ≤ LONG_MAX
  digits : Gen.maxSizeDigits = 16
  ext_ok : ∀ c ∈ ext, isEol c = false
  ext_lead : ∀ c, ext.head? = some c → isBlank c = false
  ws : 1 ≤ cfg.maxWs
  fits : (Enc.chunkHeader n ext).length ≤ cfg.maxLine

def parsedChunkHdr (n : Nat) (ext : Bytes) : CH :=
  { size := n, length := (Enc.chunkHeader n ext).length, ws := if ext.isEmpty then 0 else 1,
    hexSize := toHexString n, ext := ext, st := .valid, sizeRead := true, valid := true }

theorem chunkHeader_roundtrip (cfg : Cfg) (n : Nat) (ext rest : Bytes) (ok : ChunkHdrOk cfg n ext) :
    CH.parse cfg {} (Enc.chunkHeader n ext ++ rest) =
      (parsedChunkHdr n ext, rest, true) := by
  unfold parsedChunkHdr
  obtain ⟨h1, h2, _⟩ := C08.hex_digits n
  have hsz : (toHexString n).length ≤ Gen.maxSizeDigits := ok.digits ▸ C08.hex_length n ok.size_max
  have hcs := C08.chunkSizeOf_hex n ok.size_max
  have hline := ok.fits
  cases ext with
  | nil =>
    have hE : Enc.chunkHeader n [] ++ rest = toHexString n ++ 13 :: 10 :: rest := by
      simp [Enc.chunkHeader, Enc.crlf, Gen.cCRLF]
    have hL : (Enc.chunkHeader n []).length = (toHexString n).length + 2 := by
      simp [Enc.chunkHeader, Enc.crlf, Gen.cCRLF]
    rw [hL] at hline
    rw [CH.parse, hE, ch_size cfg _ _ h2 hsz (Nat.le_of_add_right_le hline),
      ch_size_crlf cfg _ rest n h1 hcs ok.size_fits hline]
    simp [sizeSt, h1, hL]
  | cons e es =>
    have hE : Enc.chunkHeader n (e :: es) ++ rest = toHexString n ++ 59 :: 32 :: (e :: es ++ 13 :: 10 :: rest) := by
      simp [Enc.chunkHeader, Enc.crlf, Gen.cCRLF]
    have hL : (Enc.chunkHeader n (e :: es)).length = (toHexString n).length + 2 + (e :: es).length + 2 := by
      simp [Enc.chunkHeader, Enc.crlf, Gen.cCRLF]; omega
    rw [hL] at hline
    have l3 := Nat.le_of_add_right_le hline
    have l2 := Nat.le_of_add_right_le l3
    rw [CH.parse, hE, ch_size cfg _ _ h2 hsz (Nat.le_of_add_right_le l2), ch_semi cfg _ _ n h1 hcs ok.size_fits ok.ws l2,
      ch_ext cfg _ _ _ n ok.ext_ok ok.ext_lead l3, ch_ext_crlf cfg _ rest rfl hline]
    simp [extSt, hL]

/-- **C08, chunks.**  What `http_connection::send_chunk` writes for a non-empty chunk — `chunk_header::to_string`,
    the data, CRLF — is received by `rx_chunk::parse` as one valid chunk with the same size, extension and data;
    later bytes stay unread. -/
theorem chunk_roundtrip (cfg : Cfg) (ext data rest : Bytes) (hne : data ≠ [])
    (ok : ChunkHdrOk cfg data.length ext) :
    CK.parse cfg {} (Enc.chunkHeader data.length ext ++ (data ++ 13 :: 10 :: rest)) =
      ({ hdr := parsedChunkHdr data.length ext, data := data, valid := true, dataCr := true }, rest, true) := by
  simp [CK.parse, chunkHeader_roundtrip cfg data.length ext _ ok, CK.isLast, parsedChunkHdr, hne, CK.parseData]

theorem lastChunk_eq (ext tr : Bytes) : Enc.lastChunk ext tr = Enc.chunkHeader 0 ext ++ (tr ++ Enc.crlf) := by
  have : toHexString 0 = [48] := by decide
  simp [Enc.lastChunk, Enc.chunkHeader, this]

/-- **C08, last chunk.**  `last_chunk::to_string` with any extension and any list of valid trailer lines is received by
    `rx_chunk::parse` as the valid last chunk with the same extension and trailer fields. -/
theorem lastChunk_roundtrip (cfg : Cfg) (ext : Bytes) (ts : HdrList) (rest : Bytes)
    (ok : ChunkHdrOk cfg 0 ext) (hlines : ∀ p ∈ ts, LineOk cfg p.1 p.2)
    (hl : totalLen ts ≤ cfg.maxHdrLen) (hn : ts.length ≤ cfg.maxHdrNum) :
    CK.parse cfg {} (Enc.lastChunk ext (encHeaders ts) ++ rest) =
      ({ hdr := parsedChunkHdr 0 ext,
         trailers := { fields := fieldsOf [] ts, valid := true, blankCr := true, number := ts.length,
                       length := totalLen ts },
         valid := true }, rest, true) := by
  have hE : Enc.lastChunk ext (encHeaders ts) ++ rest =
      Enc.chunkHeader 0 ext ++ (encHeaders ts ++ 13 :: 10 :: rest) := by
    simp [lastChunk_eq, Enc.crlf, Gen.cCRLF]
  rw [hE]
  simp [CK.parse, chunkHeader_roundtrip cfg 0 ext _ ok, CK.isLast, parsedChunkHdr,
    headers_roundtrip cfg ts rest ok.ws hlines hl hn]

/-! ### `rx_request::parse` and `rx_response::parse` -/

structure HeadOk (cfg : Cfg) (m u : Bytes) (maj min : Byte) (hs : HdrList) : Prop where
  method_ne : m ≠ []
  method_upper : ∀ c ∈ m, isUpper c = true
  method_fits : m.length ≤ cfg.maxMethod
  uri_ne : u ≠ []
  uri_ok : ∀ c ∈ u, isEol c = false ∧ isBlank c = false
  uri_fits : u.length ≤ cfg.maxUri
  major_digit : isDigit maj = true
  minor_digit : isDigit min = true
  ws : 1 ≤ cfg.maxWs
  lines : ∀ p ∈ hs, LineOk cfg p.1 p.2
  hdr_len : totalLen hs ≤ cfg.maxHdrLen
  hdr_num : hs.length ≤ cfg.maxHdrNum

def parsedRequest (m u : Bytes) (maj min : Byte) (hs : HdrList) : RQ :=
  { line := { method := m, uri := u, major := maj, minor := min, st := .valid, ws := 1, valid := true },
    headers := { fields := fieldsOf [] hs, valid := true, blankCr := true, number := hs.length, length := totalLen hs },
    valid := true }

theorem head_roundtrip (cfg : Cfg) (m u : Bytes) (maj min : Byte) (hs : HdrList) (rest : Bytes)
    (ok : HeadOk cfg m u maj min hs) :
    RQ.parse cfg {} (Enc.requestLine m u maj min ++ (encHeaders hs ++ 13 :: 10 :: rest)) =
      (parsedRequest m u maj min hs, rest, true) := by
  have h1 := requestLine_roundtrip cfg m u maj min (encHeaders hs ++ 13 :: 10 :: rest) ok.method_ne ok.method_upper
    ok.method_fits ok.uri_ne ok.uri_ok ok.uri_fits ok.major_digit ok.minor_digit
  have h2 := headers_roundtrip cfg hs rest ok.ws ok.lines ok.hdr_len ok.hdr_num
  simp [RQ.parse, h1, h2, parsedRequest]

structure RespHeadOk (cfg : Cfg) (maj min : Byte) (status : Nat) (reason : Bytes) (hs : HdrList) : Prop where
  line : StatusOk cfg maj min status reason
  ws : 1 ≤ cfg.maxWs
  lines : ∀ p ∈ hs, LineOk cfg p.1 p.2
  hdr_len : totalLen hs ≤ cfg.maxHdrLen
  hdr_num : hs.length ≤ cfg.maxHdrNum

def parsedResponse (maj min : Byte) (status : Nat) (reason : Bytes) (hs : HdrList) : RP :=
  { line := { status := status, reason := reason, major := maj, minor := min, st := .valid, ws := 1,
              statusRead := true, valid := true },
    headers := { fields := fieldsOf [] hs, valid := true, blankCr := true, number := hs.length, length := totalLen hs },
    valid := true }

theorem resp_head_roundtrip (cfg : Cfg) (maj min : Byte) (status : Nat) (reason : Bytes) (hs : HdrList) (rest : Bytes)
    (ok : RespHeadOk cfg maj min status reason hs) :
    RP.parse cfg {} (Enc.responseLine maj min (status : Int) reason ++ (encHeaders hs ++ 13 :: 10 :: rest)) =
      (parsedResponse maj min status reason hs, rest, true) := by
  have h1 := statusLine_roundtrip cfg maj min status reason (encHeaders hs ++ 13 :: 10 :: rest) ok.line
  have h2 := headers_roundtrip cfg hs rest ok.ws ok.lines ok.hdr_len ok.hdr_num
  simp [RP.parse, h1, h2, parsedResponse]

theorem find_add_ne {fs : Fields} {n v x : Bytes} (h : x ≠ n) : (fs.add n v).find x = fs.find x := by
  fun_induction Fields.add fs n v <;> simp_all [Fields.find, Ne.symm h]

theorem find_add_add (fs : Fields) (m w n v : Bytes) (h : m ≠ n) :
    ((fs.add m w).add n v).find n = (fs.add n v).find n := by
  fun_induction Fields.add fs m w with
  | case3 k u rest _ ih => by_cases h2 : k = n <;> simp [Fields.add, Fields.find, h2, ih]
  | _ => simp_all [Fields.add, Fields.find]

theorem find_fieldsOf (hs : HdrList) (fs : Fields) (x : Bytes) (h : ∀ p ∈ hs, lowerBytes p.1 ≠ x) :
    (fieldsOf fs hs).find x = fs.find x := by
  induction hs generalizing fs with
  | nil => rfl
  | cons p hs ih =>
    rw [List.forall_mem_cons] at h
    rw [fieldsOf_cons, ih _ h.2, find_add_ne (Ne.symm h.1)]

theorem find_fieldsOf_add (hs : HdrList) (fs : Fields) (x v : Bytes) (h : ∀ p ∈ hs, lowerBytes p.1 ≠ x) :
    ((fieldsOf fs hs).add x v).find x = (fs.add x v).find x := by
  induction hs generalizing fs with
  | nil => rfl
  | cons p hs ih =>
    rw [List.forall_mem_cons] at h
    rw [fieldsOf_cons, ih _ h.2, find_add_add _ _ _ _ _ h.1]

theorem isChunked_absent (h : MH) (hte : h.fields.find (b!"transfer-encoding") = []) : h.isChunked = false := by
  simp [MH.isChunked, hte]

theorem contentLength_present (h : MH) (hcl : h.fields.find (b!"content-length") ≠ []) :
    h.contentLength = fromDecString (h.fields.find (b!"content-length")) := by
  simp [MH.contentLength, hcl]

theorem contentLength_absent (h : MH) (hcl : h.fields.find (b!"content-length") = []) : h.contentLength = 0 := by
  simp [MH.contentLength, hcl]

theorem receiveBody_exact (cfg : Cfg) (r : RR) (fresh : Bool) (body rest : Bytes) (hb : r.body = [])
    (hcl : r.request.headers.contentLength = (body.length : Int))
    (hpres : r.request.headers.fields.find (b!"content-length") ≠ [])
    (hfit : body.length ≤ cfg.maxContent) (htr : r.request.isTrace = false) :
    RR.receiveBody cfg r fresh (body ++ rest) = (RR.finish cfg { r with body := body }, rest, .valid) := by
  have hrej : ¬ RR.Rejects cfg r (body ++ rest) := by
    simp only [RR.Rejects, htr, hcl, List.isEmpty_eq_false_iff.mpr hpres, Bool.false_eq_true, false_and, and_false,
      or_false, false_or]
    omega
  have hexp : ¬ RR.Expects r fresh (body ++ rest) := fun h => Int.lt_irrefl _ (hcl ▸ h.short.2.1)
  rw [RR.receiveBody_accum cfg r fresh _ hrej hexp, RR.accum]
  simp only [RR.pre, htr, Bool.false_eq_true, if_false, hcl, hb,
    takeBody_exact (body.length : Int) [] body rest (by simp), List.nil_append, if_true]

/-- without a Content-Length whatever follows the head is taken as body (`RS.lengthless`), so the read must end there -/
theorem resp_body_exact (cfg : Cfg) (r : RS) (fresh : Bool) (body rest : Bytes) (hb : r.body = [])
    (hch : r.response.headers.isChunked = false) (hcl : r.response.headers.contentLength = (body.length : Int))
    (hpres : r.response.headers.fields.find (b!"content-length") ≠ [] ∨ body ++ rest = []) :
    RS.afterHead cfg r fresh (body ++ rest) = ({ r with body := body }, rest, .valid) := by
  have hL : ¬ (RS.lengthless r = true ∧ body ++ rest ≠ []) := fun h =>
    hpres.elim (fun h1 => h1 (List.isEmpty_iff.mp h.1)) h.2
  rw [RS.afterHead_accum cfg r fresh _ hch (hcl ▸ Int.not_lt.2 (Int.natCast_nonneg _)) hL, C07.accum_eq]
  simp only [hcl, hb, takeBody_exact (body.length : Int) [] body rest (by simp), List.nil_append, if_true]

theorem req_chunk_reset (r : RR) (hk : r.chunk = {} ∨ r.chunk.valid = true) : RR.reset r = { r with chunk := {} } :=
  RR.reset_cases (P := fun x => x = { r with chunk := {} }) r rfl fun hv => (hk.resolve_right (by simp [hv])) ▸ rfl

theorem resp_chunk_reset (r : RS) (hk : r.chunk = {} ∨ r.chunk.valid = true) : RS.reset r = { r with chunk := {} } :=
  RS.reset_cases (P := fun x => x = { r with chunk := {} }) r rfl fun hv => (hk.resolve_right (by simp [hv])) ▸ rfl

theorem req_receive_chunk (cfg : Cfg) (r : RR) (buf rest : Bytes) (k : CK)
    (hq : r.request.valid = true) (hhost : r.request.missingHost = false)
    (hch : MH.isChunked r.request.headers = true) (hk : r.chunk = {} ∨ r.chunk.valid = true)
    (hc : CK.parse cfg {} buf = (k, rest, true)) (hkv : k.valid = true) :
    RR.receive cfg r buf =
      if cfg.concatChunks then
        if k.isLast then ({ r with chunk := k }, rest, .valid)
        else if r.body.length + k.data.length > cfg.maxContent then (({ code := 413 } : RR), rest, .invalid)
        else ({ r with chunk := k, body := r.body ++ k.data }, rest, .incomplete)
      else ({ r with chunk := k }, rest, .chunk) := by
  rw [RR.receive_valid cfg r buf hq, RR.afterHead_chunk cfg r false buf hhost hch, RR.receiveChunk_eq,
    req_chunk_reset r hk, RR.chunkParse_eq]
  simp [hc, hkv, RR.clear]

theorem resp_receive_chunk (cfg : Cfg) (r : RS) (buf rest : Bytes) (k : CK)
    (hq : r.response.valid = true) (hch : MH.isChunked r.response.headers = true)
    (hk : r.chunk = {} ∨ r.chunk.valid = true) (hc : CK.parse cfg {} buf = (k, rest, true)) (hkv : k.valid = true) :
    RS.receive cfg r buf = ({ r with chunk := k }, rest, .chunk) := by
  rw [RS.receive_valid cfg r buf hq, RS.afterHead_chunked cfg r false buf hch, resp_chunk_reset r hk]
  simp [RS.chunkParse, hc, hkv]

def receivedRequest (cfg : Cfg) (m u : Bytes) (maj min : Byte) (hs : HdrList) (body : Bytes) : RR :=
  let q := parsedRequest m u maj min hs
  let isHead := m == (b!"HEAD")
  { request := if isHead && cfg.translateHead then { q with line := { q.line with method := (b!"GET") } } else q,
    body := body, isHead := isHead }

theorem finish_parsed (cfg : Cfg) (m u : Bytes) (maj min : Byte) (hs : HdrList) (body : Bytes) (c : Nat) :
    RR.finish cfg { request := parsedRequest m u maj min hs, body := body, code := c } =
      { receivedRequest cfg m u maj min hs body with code := c } := by
  cases h : m == (b!"HEAD") && cfg.translateHead <;>
    simp only [RR.finish, receivedRequest, RQ.isHead, parsedRequest, h] <;> rfl

/-- `c`: a receiver that has been cleared keeps the status of the previous request (`RR.clear`), so this is the round trip
    for every request on a connection, not only the first -/
theorem receive_wire (cfg : Cfg) (m u : Bytes) (maj min : Byte) (hs : HdrList) (body rest : Bytes) (c : Nat)
    (ok : HeadOk cfg m u maj min hs)
    (hhost : ¬ (maj = 49 ∧ min = 49) ∨ (fieldsOf [] hs).find (b!"host") ≠ [])
    (hte : (fieldsOf [] hs).find (b!"transfer-encoding") = [])
    (hcl : (fieldsOf [] hs).find (b!"content-length") ≠ [])
    (hclv : fromDecString ((fieldsOf [] hs).find (b!"content-length")) = (body.length : Int))
    (hfit : body.length ≤ cfg.maxContent) (htrace : m ≠ (b!"TRACE")) :
    RR.receive cfg { code := c } (Enc.requestLine m u maj min ++ (encHeaders hs ++ 13 :: 10 :: (body ++ rest))) =
      ({ receivedRequest cfg m u maj min hs body with code := c }, rest, .valid) := by
  have hmh : RQ.missingHost (parsedRequest m u maj min hs) = false := by
    simp only [RQ.missingHost, parsedRequest, Bool.and_eq_false_iff, beq_eq_false_iff_ne, List.isEmpty_eq_false_iff]
    rcases hhost with h | h
    · exact Or.inl (Decidable.not_and_iff_not_or_not.1 h)
    · exact Or.inr h
  rw [RR.receive_head cfg { code := c } _ rfl, head_roundtrip cfg m u maj min hs (body ++ rest) ok, if_pos rfl,
    RR.afterHead_body cfg { request := parsedRequest m u maj min hs, code := c } true _ hmh (isChunked_absent _ hte),
    receiveBody_exact cfg { request := parsedRequest m u maj min hs, code := c } true body rest rfl
      ((contentLength_present _ hcl).trans hclv) hcl hfit (by simp [RQ.isTrace, parsedRequest, htrace]),
    finish_parsed]

theorem resp_receive_wire (cfg : Cfg) (maj min : Byte) (status : Nat) (reason : Bytes) (hs : HdrList)
    (body rest : Bytes) (ok : RespHeadOk cfg maj min status reason hs)
    (hte : (fieldsOf [] hs).find (b!"transfer-encoding") = [])
    (hcl : ((fieldsOf [] hs).find (b!"content-length") ≠ [] ∧
        fromDecString ((fieldsOf [] hs).find (b!"content-length")) = (body.length : Int)) ∨
      ((fieldsOf [] hs).find (b!"content-length") = [] ∧ body ++ rest = [])) :
    RS.receive cfg {} (Enc.responseLine maj min (status : Int) reason ++ (encHeaders hs ++ 13 :: 10 :: (body ++ rest))) =
      ({ response := parsedResponse maj min status reason hs, body := body }, rest, .valid) := by
  rw [RS.receive_head cfg {} _ rfl, resp_head_roundtrip cfg maj min status reason hs (body ++ rest) ok]
  refine resp_body_exact cfg _ true body rest rfl (isChunked_absent (parsedResponse maj min status reason hs).headers hte)
    ?_ (hcl.imp (·.1) (·.2))
  rcases hcl with ⟨h1, h2⟩ | ⟨h1, h2⟩
  · exact (contentLength_present (parsedResponse maj min status reason hs).headers h1).trans h2
  · simp [contentLength_absent (parsedResponse maj min status reason hs).headers h1, (List.append_eq_nil_iff.1 h2).1]

/-! ### `tx_request::message` and `tx_response::message` through the receivers -/

/-- the line `header_field::content_length(n)` -/
def clLine (n : Nat) : Bytes × Bytes := (Gen.cHEADER_CONTENT_LENGTH, toDecString n)

theorem clLine_ok (cfg : Cfg) (n : Nat) (hfit : 18 + (toDecString n).length ≤ cfg.maxLine) :
    LineOk cfg (clLine n).1 (clLine n).2 := by
  obtain ⟨_, h2, _⟩ := C08.dec_digits n
  refine ⟨List.cons_ne_nil _ _, List.all_eq_true.1 own_headers_parse.1, fun c hc => (digit_not_eol_blank c (h2 c hc)).1,
    fun c hc => (digit_not_eol_blank c (h2 c (List.mem_of_mem_head? hc))).2, ?_⟩
  show 14 + (toDecString n).length + 4 ≤ cfg.maxLine
  omega

theorem contentLengthHeader_eq (n : Nat) : Enc.contentLengthHeader n = encHeaders [clLine n] := by
  simp [Enc.contentLengthHeader, encHeaders, clLine, Enc.toHeader]

theorem find_other_clLine (hs : HdrList) (n : Nat) (x : Bytes) (hx : x ≠ (b!"content-length")) :
    (fieldsOf [] (hs ++ [clLine n])).find x = (fieldsOf [] hs).find x := by
  rw [fieldsOf_append, fieldsOf_cons, fieldsOf_nil]
  exact find_add_ne hx

theorem read_clLine (hs : HdrList) (n : Nat) (hnocl : ∀ p ∈ hs, lowerBytes p.1 ≠ (b!"content-length"))
    (hmax : n ≤ LONG_MAX) :
    (fieldsOf [] (hs ++ [clLine n])).find (b!"content-length") ≠ [] ∧
      fromDecString ((fieldsOf [] (hs ++ [clLine n])).find (b!"content-length")) = (n : Int) := by
  rw [fieldsOf_append, fieldsOf_cons, fieldsOf_nil, clLine,
    show lowerBytes Gen.cHEADER_CONTENT_LENGTH = (b!"content-length") from own_headers_parse.2.2.1,
    find_fieldsOf_add hs [] _ _ hnocl]
  exact ⟨(C08.dec_digits n).1, dec_roundtrip n hmax⟩

/-- **C08, requests.**  `tx_request::message(body.size())` followed by the body is received by
    `request_receiver::receive` as one VALID request with the same method, target, version, header fields (plus the
    Content-Length the encoder added) and body, for every valid component tuple within the receiver's limits; bytes
    after the message stay unread.  Preconditions that are not mere validity: no header line of the application is a
    Content-Length / Transfer-Encoding in ANOTHER spelling (`needs` is the encoder's case-sensitive substring test;
    the next two are the receiver's case-insensitive view) — exactly the gap of known finding C04-KF1 — a
    HTTP/1.1 request names a Host, and the method is not TRACE, which the receiver refuses with a body. -/
theorem request_roundtrip (cfg : Cfg) (m u : Bytes) (maj min : Byte) (hs : HdrList) (body rest : Bytes)
    (ok : HeadOk cfg m u maj min (hs ++ [clLine body.length]))
    (needs : Enc.needsContentLength (encHeaders hs) = true)
    (hnocl : ∀ p ∈ hs, lowerBytes p.1 ≠ (b!"content-length"))
    (hte : (fieldsOf [] hs).find (b!"transfer-encoding") = [])
    (hhost : ¬ (maj = 49 ∧ min = 49) ∨ (fieldsOf [] hs).find (b!"host") ≠ [])
    (hfit : body.length ≤ cfg.maxContent) (hmax : body.length ≤ LONG_MAX) (htrace : m ≠ (b!"TRACE")) :
    RR.receive cfg {} (Enc.txRequestMessage m u maj min (encHeaders hs) body.length ++ (body ++ rest)) =
      (receivedRequest cfg m u maj min (hs ++ [clLine body.length]) body, rest, .valid) := by
  have hmsg : Enc.txRequestMessage m u maj min (encHeaders hs) body.length ++ (body ++ rest) =
      Enc.requestLine m u maj min ++ (encHeaders (hs ++ [clLine body.length]) ++ 13 :: 10 :: (body ++ rest)) := by
    simp [Enc.txRequestMessage, needs, contentLengthHeader_eq, encHeaders_append, Enc.crlf, Gen.cCRLF]
  obtain ⟨hcl, hclv⟩ := read_clLine hs body.length hnocl hmax
  rw [hmsg]
  refine receive_wire cfg m u maj min _ body rest 204 ok ?_ ?_ hcl hclv hfit htrace
  · rw [find_other_clLine hs _ _ (by decide)]; exact hhost
  · rw [find_other_clLine hs _ _ (by decide)]; exact hte

/-- the premises of `request_roundtrip` are satisfiable -/
example : HeadOk {} (b!"POST") (b!"/a") 49 49 ([((b!"Host"), (b!"h"))] ++ [clLine 3]) ∧
    Enc.needsContentLength (encHeaders [((b!"Host"), (b!"h"))]) = true := by
  refine ⟨⟨?_, ?_, ?_, ?_, ?_, ?_, ?_, ?_, ?_, ?lines, ?_, ?_⟩, ?_⟩
  case lines =>
    intro p hp
    simp only [List.cons_append, List.nil_append, List.mem_cons, List.not_mem_nil, or_false] at hp
    rcases hp with rfl | rfl
    · constructor <;> decide
    · exact clLine_ok {} 3 (by decide)
  all_goals decide

/-- **C08, responses with a body.**  `tx_response::message(body.size())` for a status that permits content, followed
    by the body, is received by `response_receiver::receive` as one VALID response with the same version, status,
    reason, header fields (plus the Content-Length the encoder added) and body. -/
theorem response_roundtrip (cfg : Cfg) (maj min : Byte) (status : Nat) (reason : Bytes) (hs : HdrList)
    (body rest : Bytes) (ok : RespHeadOk cfg maj min status reason (hs ++ [clLine body.length]))
    (permitted : Enc.contentPermitted (status : Int) = true)
    (needs : Enc.needsContentLength (encHeaders hs) = true)
    (hnocl : ∀ p ∈ hs, lowerBytes p.1 ≠ (b!"content-length"))
    (hte : (fieldsOf [] hs).find (b!"transfer-encoding") = [])
    (hmax : body.length ≤ LONG_MAX) :
    RS.receive cfg {} (Enc.txResponseMessage maj min (status : Int) reason (encHeaders hs) body.length ++ (body ++ rest)) =
      ({ response := parsedResponse maj min status reason (hs ++ [clLine body.length]), body := body }, rest, .valid) := by
  have hmsg : Enc.txResponseMessage maj min (status : Int) reason (encHeaders hs) body.length ++ (body ++ rest) =
      Enc.responseLine maj min (status : Int) reason ++
        (encHeaders (hs ++ [clLine body.length]) ++ 13 :: 10 :: (body ++ rest)) := by
    simp [Enc.txResponseMessage, needs, permitted, contentLengthHeader_eq, encHeaders_append, Enc.crlf, Gen.cCRLF]
  rw [hmsg]
  refine resp_receive_wire cfg maj min status reason _ body rest ok ?_ (Or.inl (read_clLine hs body.length hnocl hmax))
  rw [find_other_clLine hs _ _ (by decide)]; exact hte

/-- **C08, responses that may not carry content** (1xx, 204, 304: the encoder adds no Content-Length): the head alone
    is received as one VALID response with an empty body. -/
theorem response_roundtrip_nocontent (cfg : Cfg) (maj min : Byte) (status : Nat) (reason : Bytes) (hs : HdrList)
    (n : Nat) (ok : RespHeadOk cfg maj min status reason hs)
    (permitted : Enc.contentPermitted (status : Int) = false)
    (hnocl : ∀ p ∈ hs, lowerBytes p.1 ≠ (b!"content-length"))
    (hte : (fieldsOf [] hs).find (b!"transfer-encoding") = []) :
    RS.receive cfg {} (Enc.txResponseMessage maj min (status : Int) reason (encHeaders hs) n) =
      ({ response := parsedResponse maj min status reason hs, body := [] }, [], .valid) := by
  have hmsg : Enc.txResponseMessage maj min (status : Int) reason (encHeaders hs) n =
      Enc.responseLine maj min (status : Int) reason ++ (encHeaders hs ++ 13 :: 10 :: ([] ++ [])) := by
    simp [Enc.txResponseMessage, permitted, Enc.crlf, Gen.cCRLF]
  rw [hmsg]
  exact resp_receive_wire cfg maj min status reason hs [] [] ok hte
    (Or.inr ⟨find_fieldsOf hs [] _ hnocl, rfl⟩)

/-! ### chunked responses through `response_receiver` -/

/-- the head of a chunked response (any header list that the receiver regards as chunked) is received as VALID, with
    the chunks left unread -/
theorem resp_chunked_head (cfg : Cfg) (maj min : Byte) (status : Nat) (reason : Bytes) (hs : HdrList) (rest : Bytes)
    (ok : RespHeadOk cfg maj min status reason hs)
    (hch : MH.isChunked (parsedResponse maj min status reason hs).headers = true) :
    RS.receive cfg {} (Enc.responseLine maj min (status : Int) reason ++ (encHeaders hs ++ 13 :: 10 :: rest)) =
      ({ response := parsedResponse maj min status reason hs }, rest, .valid) := by
  rw [RS.receive_head cfg {} _ rfl, resp_head_roundtrip cfg maj min status reason hs rest ok]
  simp [RS.afterHead_chunked cfg { response := parsedResponse maj min status reason hs } true rest hch, RS.reset]

/-- … and every chunk the encoder writes afterwards is delivered as CHUNK with the same data and extension
    (`k0` is whatever the previous delivery left: a fresh chunk object or a completed one) -/
theorem resp_chunk_received (cfg : Cfg) (q : RP) (k0 : CK) (b0 : Bytes) (ext data rest : Bytes)
    (hq : q.valid = true) (hch : MH.isChunked q.headers = true) (hk : k0 = {} ∨ k0.valid = true)
    (hne : data ≠ []) (ok : ChunkHdrOk cfg data.length ext) :
    RS.receive cfg { response := q, chunk := k0, body := b0 }
        (Enc.chunkHeader data.length ext ++ (data ++ 13 :: 10 :: rest)) =
      ({ response := q, body := b0,
         chunk := { hdr := parsedChunkHdr data.length ext, data := data, valid := true, dataCr := true } },
        rest, .chunk) := by
  exact resp_receive_chunk cfg _ _ rest _ hq hch hk (chunk_roundtrip cfg ext data rest hne ok) rfl

theorem resp_last_chunk_received (cfg : Cfg) (q : RP) (k0 : CK) (b0 : Bytes) (ext : Bytes) (ts : HdrList) (rest : Bytes)
    (hq : q.valid = true) (hch : MH.isChunked q.headers = true) (hk : k0 = {} ∨ k0.valid = true)
    (ok : ChunkHdrOk cfg 0 ext) (hlines : ∀ p ∈ ts, LineOk cfg p.1 p.2)
    (hl : totalLen ts ≤ cfg.maxHdrLen) (hn : ts.length ≤ cfg.maxHdrNum) :
    let r := RS.receive cfg { response := q, chunk := k0, body := b0 } (Enc.lastChunk ext (encHeaders ts) ++ rest)
    r.2.2 = .chunk ∧ r.2.1 = rest ∧ r.1.chunk.isLast = true ∧ r.1.chunk.hdr.ext = ext ∧
      r.1.chunk.trailers.fields = fieldsOf [] ts := by
  intro r
  have hr : r = _ :=
    resp_receive_chunk cfg _ _ rest _ hq hch hk (lastChunk_roundtrip cfg ext ts rest ok hlines hl hn) rfl
  simp [hr, CK.isLast, parsedChunkHdr]

/-! ### chunked requests through `request_receiver` -/

theorem req_chunked_head_cleared (cfg : Cfg) (m u : Bytes) (maj min : Byte) (hs : HdrList) (rest : Bytes) (c : Nat)
    (ok : HeadOk cfg m u maj min hs) (hcc : cfg.concatChunks = false)
    (hhost : RQ.missingHost (parsedRequest m u maj min hs) = false)
    (hch : MH.isChunked (parsedRequest m u maj min hs).headers = true)
    (hexp : RQ.expectContinue (parsedRequest m u maj min hs) = false) :
    RR.receive cfg { code := c } (Enc.requestLine m u maj min ++ (encHeaders hs ++ 13 :: 10 :: rest)) =
      ({ request := parsedRequest m u maj min hs, code := c }, rest, .valid) := by
  rw [RR.receive_head cfg { code := c } _ rfl, head_roundtrip cfg m u maj min hs rest ok]
  simp [RR.afterHead, RR.receiveChunk_eq, RR.reset, hhost, hch, hexp, hcc]

/-- the head of a chunked request, application receives chunks one by one (`concatenate_chunks` off): VALID, chunks
    left unread -/
theorem req_chunked_head (cfg : Cfg) (m u : Bytes) (maj min : Byte) (hs : HdrList) (rest : Bytes)
    (ok : HeadOk cfg m u maj min hs) (hcc : cfg.concatChunks = false)
    (hhost : RQ.missingHost (parsedRequest m u maj min hs) = false)
    (hch : MH.isChunked (parsedRequest m u maj min hs).headers = true)
    (hexp : RQ.expectContinue (parsedRequest m u maj min hs) = false) :
    RR.receive cfg {} (Enc.requestLine m u maj min ++ (encHeaders hs ++ 13 :: 10 :: rest)) =
      ({ request := parsedRequest m u maj min hs }, rest, .valid) :=
  req_chunked_head_cleared cfg m u maj min hs rest 204 ok hcc hhost hch hexp

theorem req_chunk_received (cfg : Cfg) (r : RR) (ext data rest : Bytes)
    (hq : r.request.valid = true) (hhost : r.request.missingHost = false)
    (hch : MH.isChunked r.request.headers = true) (hcc : cfg.concatChunks = false)
    (hk : r.chunk = {} ∨ r.chunk.valid = true) (hne : data ≠ []) (ok : ChunkHdrOk cfg data.length ext) :
    RR.receive cfg r (Enc.chunkHeader data.length ext ++ (data ++ 13 :: 10 :: rest)) =
      ({ r with chunk := { hdr := parsedChunkHdr data.length ext, data := data, valid := true, dataCr := true } },
        rest, .chunk) := by
  rw [req_receive_chunk cfg r _ rest _ hq hhost hch hk (chunk_roundtrip cfg ext data rest hne ok) rfl]
  simp [hcc]

/-- … and with `concatenate_chunks` on, a chunk is appended to the body (INCOMPLETE) as long as the body stays within
    the content limit -/
theorem req_chunk_concatenated (cfg : Cfg) (r : RR) (ext data rest : Bytes)
    (hq : r.request.valid = true) (hhost : r.request.missingHost = false)
    (hch : MH.isChunked r.request.headers = true) (hcc : cfg.concatChunks = true)
    (hk : r.chunk = {} ∨ r.chunk.valid = true) (hne : data ≠ []) (ok : ChunkHdrOk cfg data.length ext)
    (hfit : r.body.length + data.length ≤ cfg.maxContent) :
    RR.receive cfg r (Enc.chunkHeader data.length ext ++ (data ++ 13 :: 10 :: rest)) =
      ({ r with chunk := { hdr := parsedChunkHdr data.length ext, data := data, valid := true, dataCr := true },
                body := r.body ++ data }, rest, .incomplete) := by
  rw [req_receive_chunk cfg r _ rest _ hq hhost hch hk (chunk_roundtrip cfg ext data rest hne ok) rfl]
  simp [hcc, CK.isLast, parsedChunkHdr, hne, Nat.not_lt.2 hfit]

/-- … and the last chunk completes the request: VALID with the concatenated body and the trailers -/
theorem req_last_chunk_concatenated (cfg : Cfg) (r : RR) (ext : Bytes) (ts : HdrList) (rest : Bytes)
    (hq : r.request.valid = true) (hhost : r.request.missingHost = false)
    (hch : MH.isChunked r.request.headers = true) (hcc : cfg.concatChunks = true)
    (hk : r.chunk = {} ∨ r.chunk.valid = true)
    (ok : ChunkHdrOk cfg 0 ext) (hlines : ∀ p ∈ ts, LineOk cfg p.1 p.2)
    (hl : totalLen ts ≤ cfg.maxHdrLen) (hn : ts.length ≤ cfg.maxHdrNum) :
    let x := RR.receive cfg r (Enc.lastChunk ext (encHeaders ts) ++ rest)
    x.2.2 = .valid ∧ x.2.1 = rest ∧ x.1.body = r.body ∧ x.1.chunk.trailers.fields = fieldsOf [] ts := by
  intro x
  have hx : x = _ :=
    req_receive_chunk cfg r _ rest _ hq hhost hch hk (lastChunk_roundtrip cfg ext ts rest ok hlines hl hn) rfl
  simp [hx, hcc, CK.isLast, parsedChunkHdr]

/-! ### non-vacuity -/

theorem instance_resp_ok : RespHeadOk {} 49 49 200 (b!"OK") ([((b!"Server"), (b!"via"))] ++ [clLine (b!"hi").length]) := by
  refine ⟨⟨?_, ?_, ?_, ?_, ?_, ?_⟩, ?_, ?lines, ?_, ?_⟩
  case lines =>
    intro p hp
    simp only [List.cons_append, List.nil_append, List.mem_cons, List.not_mem_nil, or_false] at hp
    rcases hp with rfl | rfl
    · constructor <;> decide
    · exact clLine_ok {} 2 (by decide)
  all_goals decide

example : RespHeadOk {} 49 49 200 (b!"OK") ([((b!"Server"), (b!"via"))] ++ [clLine 2]) ∧
    Enc.contentPermitted 200 = true ∧ ChunkHdrOk {} 5 (b!"a=b") ∧ ChunkHdrOk {} 0 [] := by
  refine ⟨instance_resp_ok, by decide, ?_, ?_⟩ <;> constructor <;> decide

example (rest : Bytes) :
    RS.receive {} {} (Enc.txResponseMessage 49 49 (200 : Nat) (b!"OK") (encHeaders [((b!"Server"), (b!"via"))])
        (b!"hi").length ++ ((b!"hi") ++ rest)) =
      ({ response := parsedResponse 49 49 200 (b!"OK") ([((b!"Server"), (b!"via"))] ++ [clLine (b!"hi").length]),
         body := (b!"hi") }, rest, .valid) := by
  refine response_roundtrip {} 49 49 200 (b!"OK") [((b!"Server"), (b!"via"))] (b!"hi") rest instance_resp_ok
    ?_ ?_ ?_ ?_ ?_ <;> decide

end RT

/-- a chunk header produced by `chunk_header::to_string` is accepted by `chunk_header::parse` with the same size and
    extension -/
theorem chunk_header_roundtrip (cfg : Cfg) (n : Nat) (ext : Bytes)
    (hn : n ≤ cfg.maxChunk) (hmax : n ≤ LONG_MAX) (hsz : Gen.maxSizeDigits = 16)
    (hext : ∀ c ∈ ext, isEol c = false) (hlead : ∀ c, ext.head? = some c → isBlank c = false)
    (hws : 1 ≤ cfg.maxWs) (hline : (Enc.chunkHeader n ext).length ≤ cfg.maxLine) :
    let r := CH.parse cfg {} (Enc.chunkHeader n ext)
    r.2.2 = true ∧ r.2.1 = [] ∧ r.1.size = n ∧ r.1.ext = ext := by
  have := RT.chunkHeader_roundtrip cfg n ext [] ⟨hn, hmax, hsz, hext, hlead, hws, hline⟩
  rw [List.append_nil] at this
  simp [this, RT.parsedChunkHdr]

end Via
