import ViaModel.Cfg
/-
  The per-read loop of `http_server::receive_handler` / `http_client::receive_handler` over an abstract receiver:
  `RR.readLoop`, `RS.readLoop` and the loops over the translated receivers are instances of `Rcv.readLoop`, and what
  holds of the loop whichever receiver runs in it is proved here once, from the facts a receiver has to supply:
  * `Rcv.Lawful`  an invariant kept by `receive` followed by the handler's reaction, under which `receive` consumes a
                  byte unless it rejects: the loop ends within the fuel `|read| + 1` (`Lawful.readLoop_done`);
  * `Rcv.Splits`  in addition the one-call fragmentation law `split`: if the run over a single read is clean, every
                  division into reads is clean too and shows the handlers the same (`Splits.frag`).
-/
namespace Via

structure Rcv (R : Type) where
  receive : R → Bytes → R × Bytes × Rx
  /-- what the handler does to the receiver after a result -/
  after : R → Rx → R

namespace Rcv

variable {R D V : Type} (T : Rcv R)

def next (r : R) (buf : Bytes) : R := T.after (T.receive r buf).1 (T.receive r buf).2.2

/-! ### the loop as the model has it: deliveries with byte counts, accumulated in reverse -/

section deliveries

variable (mk : Rx → Nat → R → D)

def readLoop : Nat → R → Bytes → List D → R × Bytes × List D
  | 0, r, buf, acc => (r, buf, acc.reverse)
  | fuel + 1, r, buf, acc =>
    if buf.isEmpty then (r, buf, acc.reverse)
    else
      let p := T.receive r buf
      let d := mk p.2.2 (buf.length - p.2.1.length) p.1
      if p.2.2 == .invalid then (T.next r buf, p.2.1, (d :: acc).reverse)
      else readLoop fuel (T.next r buf) p.2.1 (d :: acc)

def feed (r : R) : List Bytes → R × List D
  | [] => (r, [])
  | rd :: rest =>
    let x := T.readLoop mk (rd.length + 1) r rd []
    let y := feed x.1 rest
    (y.1, x.2.2 ++ y.2)

theorem readLoop_inv {P : R → Prop} (hP : ∀ r buf, P r → P (T.next r buf)) :
    ∀ (fuel : Nat) (r : R) (buf : Bytes) (acc : List D), P r → P (T.readLoop mk fuel r buf acc).1 := by
  intro fuel
  induction fuel with
  | zero => intro r buf acc h; exact h
  | succ n ih =>
    intro r buf acc h
    simp only [readLoop]
    split
    · exact h
    · split
      · exact hP r buf h
      · exact ih _ _ _ (hP r buf h)

theorem readLoop_congr (T' : Rcv R) {P : R → Prop} (hP : ∀ r buf, P r → P (T.next r buf))
    (hr : ∀ r buf, P r → T'.receive r buf = T.receive r buf) (ha : T'.after = T.after) :
    ∀ (fuel : Nat) (r : R) (buf : Bytes) (acc : List D), P r →
      T'.readLoop mk fuel r buf acc = T.readLoop mk fuel r buf acc := by
  intro fuel
  induction fuel with
  | zero => intro r buf acc _; rfl
  | succ n ih =>
    intro r buf acc h
    have hn : T'.next r buf = T.next r buf := by simp only [next, hr r buf h, ha]
    simp only [readLoop, hr r buf h, hn]
    split
    · rfl
    · split
      · rfl
      · exact ih _ _ _ (hP r buf h)

end deliveries

/-! ### the loop as the proofs use it: the list of results, no byte counts -/

def loop : Nat → R → Bytes → R × Bytes × List (Rx × R)
  | 0, r, buf => (r, buf, [])
  | fuel + 1, r, buf =>
    if buf.isEmpty then (r, buf, [])
    else
      let p := T.receive r buf
      if p.2.2 == .invalid then (T.next r buf, p.2.1, [(p.2.2, p.1)])
      else
        let y := loop fuel (T.next r buf) p.2.1
        (y.1, y.2.1, (p.2.2, p.1) :: y.2.2)

def run (r : R) (buf : Bytes) : R × Bytes × List (Rx × R) := T.loop (buf.length + 1) r buf

def feedE (r : R) : List Bytes → R × List (Rx × R)
  | [] => (r, [])
  | rd :: rest =>
    let x := T.run r rd
    let y := feedE x.1 rest
    (y.1, x.2.2 ++ y.2)

section bridge

variable (mk : Rx → Nat → R → D) (ev : D → Rx × R) (hev : ∀ x n s, ev (mk x n s) = (x, s))
include hev

theorem readLoop_loop : ∀ (fuel : Nat) (r : R) (buf : Bytes) (acc : List D),
    (T.readLoop mk fuel r buf acc).1 = (T.loop fuel r buf).1 ∧
    (T.readLoop mk fuel r buf acc).2.1 = (T.loop fuel r buf).2.1 ∧
    (T.readLoop mk fuel r buf acc).2.2.map ev = acc.reverse.map ev ++ (T.loop fuel r buf).2.2 := by
  intro fuel
  induction fuel with
  | zero => intro r buf acc; simp [readLoop, loop]
  | succ fuel ih =>
    intro r buf acc
    simp only [readLoop, loop]
    split
    · simp
    · split
      · simp [hev]
      · obtain ⟨h1, h2, h3⟩ := ih (T.next r buf) (T.receive r buf).2.1
          (mk (T.receive r buf).2.2 (buf.length - (T.receive r buf).2.1.length) (T.receive r buf).1 :: acc)
        refine ⟨h1, h2, ?_⟩
        rw [h3]
        simp [hev]

theorem feed_feedE (ps : List Bytes) : ∀ r : R,
    (T.feed mk r ps).1 = (T.feedE r ps).1 ∧ (T.feed mk r ps).2.map ev = (T.feedE r ps).2 := by
  induction ps with
  | nil => intro r; simp [feed, feedE]
  | cons p ps ih =>
    intro r
    obtain ⟨h1, _, h3⟩ := T.readLoop_loop mk ev hev (p.length + 1) r p []
    simp only [feed, feedE, run]
    rw [h1]
    obtain ⟨i1, i2⟩ := ih (T.loop (p.length + 1) r p).1
    refine ⟨i1, ?_⟩
    rw [List.map_append, h3, i2]
    simp

end bridge

def okE (es : List (Rx × R)) : Prop := ∀ e ∈ es, e.1 ≠ .invalid

/-- what the request / response and chunk handlers are called with -/
def pay (view : Rx → R → V) (es : List (Rx × R)) : List V :=
  (es.filter fun e => e.1 == .valid || e.1 == .chunk).map fun e => view e.1 e.2

theorem okE_cons (e : Rx × R) (xs : List (Rx × R)) : okE (e :: xs) ↔ e.1 ≠ .invalid ∧ okE xs := by
  simp [okE]

theorem pay_append (view : Rx → R → V) (xs ys : List (Rx × R)) : pay view (xs ++ ys) = pay view xs ++ pay view ys := by
  simp [pay]

theorem pay_cons (view : Rx → R → V) (e : Rx × R) (xs : List (Rx × R)) :
    pay view (e :: xs) = pay view [e] ++ pay view xs :=
  pay_append view [e] xs

def silent (x : Rx) : Prop := x = .incomplete ∨ x = .expectContinue

theorem pay_silent (view : Rx → R → V) (e : Rx × R) (h : silent e.1) : pay view [e] = [] := by
  rcases h with h | h <;> simp [pay, h]

theorem silent_ne {x : Rx} (h : silent x) : x ≠ .invalid := by
  rcases h with h | h <;> simp [h]

structure Lawful (Inv : R → Prop) : Prop where
  step : ∀ r buf, Inv r → Inv (T.next r buf)
  progress : ∀ r buf, Inv r → buf ≠ [] →
    (T.receive r buf).2.2 = .invalid ∨ (T.receive r buf).2.1.length < buf.length

variable {T} {Inv : R → Prop}

theorem Lawful.receive_lt (L : T.Lawful Inv) {r : R} {buf : Bytes} (hI : Inv r) (hne : buf ≠ [])
    (hinv : (T.receive r buf).2.2 ≠ .invalid) : (T.receive r buf).2.1.length < buf.length :=
  (L.progress r buf hI hne).resolve_left hinv

/-- the fuel `|read| + 1` never runs out: the loop ends on an empty buffer or on INVALID -/
theorem Lawful.readLoop_done (L : T.Lawful Inv) (mk : Rx → Nat → R → D) (rx : D → Rx)
    (hrx : ∀ x n s, rx (mk x n s) = x) :
    ∀ (fuel : Nat) (r : R) (buf : Bytes) (acc : List D), Inv r → buf.length + 1 ≤ fuel →
    ((T.readLoop mk fuel r buf acc).2.1 = [] ∨
      ((T.readLoop mk fuel r buf acc).2.2.getLast?.map rx) = some .invalid) ∧
    Inv (T.readLoop mk fuel r buf acc).1 ∧
    (T.readLoop mk fuel r buf acc).2.2.length ≤ acc.length + buf.length := by
  intro fuel
  induction fuel with
  | zero => intro r buf acc _ hf; omega
  | succ fuel ih =>
    intro r buf acc hI hf
    by_cases hne : buf = []
    · subst hne; simp [readLoop, hI]
    · have hemp : buf.isEmpty = false := by simpa using hne
      have hlen : 0 < buf.length := List.length_pos_iff.mpr hne
      simp only [readLoop, hemp, Bool.false_eq_true, if_false]
      by_cases hinv : (T.receive r buf).2.2 = .invalid
      · simp only [hinv, beq_self_eq_true, if_true]
        refine ⟨Or.inr (by simp [hrx]), ?_, by simp; omega⟩
        exact L.step r buf hI
      · simp only [beq_iff_eq, hinv, if_false]
        have hlt := L.receive_lt hI hne hinv
        obtain ⟨i1, i2, i3⟩ := ih _ (T.receive r buf).2.1
          (mk (T.receive r buf).2.2 (buf.length - (T.receive r buf).2.1.length) (T.receive r buf).1 :: acc)
          (L.step r buf hI) (by omega)
        refine ⟨i1, i2, ?_⟩
        simp only [List.length_cons] at i3
        omega

theorem Lawful.loop_fuel (L : T.Lawful Inv) : ∀ (f f' : Nat) (r : R) (buf : Bytes), Inv r →
    buf.length < f → buf.length < f' → T.loop f r buf = T.loop f' r buf := by
  intro f
  induction f with
  | zero => intro f' r buf _ h; omega
  | succ f ih =>
    intro f' r buf hI h1 h2
    cases f' with
    | zero => omega
    | succ f' =>
      simp only [loop]
      split
      · rfl
      · rename_i hne
        split
        · rfl
        · rename_i hinv
          have hlt := L.receive_lt hI (by simpa using hne) (by simpa using hinv)
          rw [ih f' _ _ (L.step r buf hI) (by omega) (by omega)]

theorem run_nil (T : Rcv R) (r : R) : T.run r [] = (r, [], []) := by
  simp [run, loop]

/-- the run that follows a result `p` of `receive` -/
def resume (T : Rcv R) (p : R × Bytes × Rx) : R × Bytes × List (Rx × R) :=
  ((T.run (T.after p.1 p.2.2) p.2.1).1, (T.run (T.after p.1 p.2.2) p.2.1).2.1,
    (p.2.2, p.1) :: (T.run (T.after p.1 p.2.2) p.2.1).2.2)

theorem Lawful.run_cons (L : T.Lawful Inv) {r : R} {buf : Bytes} (hI : Inv r) (hne : buf ≠ [])
    (hinv : (T.receive r buf).2.2 ≠ .invalid) : T.run r buf = T.resume (T.receive r buf) := by
  have hlt := L.receive_lt hI hne hinv
  have he : buf.isEmpty = false := by simpa using hne
  simp only [run, resume]
  rw [loop]
  simp only [he, Bool.false_eq_true, if_false, beq_iff_eq, hinv]
  rw [L.loop_fuel buf.length ((T.receive r buf).2.1.length + 1) _ _ (L.step r buf hI) hlt (Nat.lt_succ_self _)]
  rfl

theorem run_invalid (T : Rcv R) {r : R} {buf : Bytes} (hne : buf ≠ []) (hinv : (T.receive r buf).2.2 = .invalid) :
    T.run r buf = (T.next r buf, (T.receive r buf).2.1, [(.invalid, (T.receive r buf).1)]) := by
  have he : buf.isEmpty = false := by simpa using hne
  simp only [run, loop, he, Bool.false_eq_true, if_false, hinv, beq_self_eq_true, if_true]

theorem Lawful.run_inv (L : T.Lawful Inv) (r : R) (buf : Bytes) (hI : Inv r) : Inv (T.run r buf).1 := by
  rw [run, ← (T.readLoop_loop (fun x _ s => (x, s)) id (fun _ _ _ => rfl) _ r buf []).1]
  exact T.readLoop_inv _ L.step _ r buf [] hI

def Clean (Good : R → Prop) (x : R × Bytes × List (Rx × R)) : Prop := okE x.2.2 ∧ x.2.1 = [] ∧ Good x.1

variable {Good : R → Prop}

theorem clean_resume {p : R × Bytes × Rx} :
    Clean Good (T.resume p) ↔ p.2.2 ≠ .invalid ∧ Clean Good (T.run (T.after p.1 p.2.2) p.2.1) := by
  simp only [Clean, resume, okE_cons, and_assoc]

theorem Clean.ne_invalid {r : R} {buf : Bytes} (h : Clean Good (T.run r buf)) (hne : buf ≠ []) :
    (T.receive r buf).2.2 ≠ .invalid := fun hinv => by
  rw [run_invalid T hne hinv] at h
  exact h.1 _ (List.mem_singleton.mpr rfl) rfl

/-- `Sim` relates receiver states that no handler can tell apart, now or later; `Good` is what a clean run requires of
    the state it ends in -/
structure Splits (T : Rcv R) (Inv : R → Prop) (Sim : R → R → Prop) (Good : R → Prop) (view : Rx → R → V) : Prop
    extends Lawful T Inv where
  sim_receive : ∀ r r' buf, Sim r r' →
    Sim (T.receive r buf).1 (T.receive r' buf).1 ∧ (T.receive r buf).2 = (T.receive r' buf).2
  sim_after : ∀ s s' x, Sim s s' → Sim (T.after s x) (T.after s' x)
  sim_view : ∀ x s s', Sim s s' → view x s = view x s'
  sim_good : ∀ r r', Sim r r' → Good r → Good r'
  /-- the call on `a` already gives the verdict of the call on `a ++ b` and leaves `b` untouched, or it reports nothing
      and the next call, on what it left and `b`, gives that verdict -/
  split : ∀ r a b, Inv r → b ≠ [] → (T.receive r (a ++ b)).2.2 ≠ .invalid →
    ((T.receive r (a ++ b)).2.1 = [] → Good (T.next r (a ++ b))) →
    T.receive r (a ++ b) = ((T.receive r a).1, (T.receive r a).2.1 ++ b, (T.receive r a).2.2) ∨
    (silent (T.receive r a).2.2 ∧
      Sim (T.receive r (a ++ b)).1 (T.receive (T.next r a) ((T.receive r a).2.1 ++ b)).1 ∧
      (T.receive r (a ++ b)).2 = (T.receive (T.next r a) ((T.receive r a).2.1 ++ b)).2)

variable {Sim : R → R → Prop} {view : Rx → R → V}

theorem Splits.pay_sim (L : Splits T Inv Sim Good view) (x : Rx) {s s' : R} {ys ys' : List (Rx × R)} (h : Sim s s')
    (hy : pay view ys = pay view ys') : pay view ((x, s) :: ys) = pay view ((x, s') :: ys') := by
  rw [pay_cons, pay_cons view (x, s'), hy]
  simp only [pay, List.filter_cons, List.filter_nil]
  split
  · simp only [List.map_cons, List.map_nil, L.sim_view x s s' h]
  · rfl

theorem Splits.resume_sim (L : Splits T Inv Sim Good view) : ∀ (n : Nat) (p q : R × Bytes × Rx), p.2.1.length < n →
    Inv (T.after p.1 p.2.2) → Inv (T.after q.1 q.2.2) → Sim p.1 q.1 → p.2 = q.2 → Clean Good (T.resume p) →
    Clean Good (T.resume q) ∧ pay view (T.resume p).2.2 = pay view (T.resume q).2.2 := by
  intro n
  induction n with
  | zero => intro p q hn; omega
  | succ n ih =>
    intro ⟨s, rest, x⟩ ⟨s', _, _⟩ hn hI hI' hs he hc
    cases he
    dsimp only at hn hI hI' hs
    have s3 := L.sim_after s s' x hs
    rw [clean_resume] at hc ⊢
    by_cases hne : rest = []
    · subst hne
      simp only [resume, run_nil] at hc ⊢
      exact ⟨⟨hc.1, nofun, rfl, L.sim_good _ _ s3 hc.2.2.2⟩, L.pay_sim x hs rfl⟩
    · have hinv := hc.2.ne_invalid hne
      obtain ⟨s1, s2⟩ := L.sim_receive _ _ rest s3
      have hlt := L.receive_lt hI hne hinv
      simp only [resume]
      rw [L.run_cons hI hne hinv] at hc ⊢
      rw [L.run_cons hI' hne (s2 ▸ hinv)]
      obtain ⟨i1, i2⟩ := ih _ _ (by omega) (L.step _ rest hI) (L.step _ rest hI') s1 s2 hc.2
      exact ⟨⟨hc.1, i1⟩, L.pay_sim x hs i2⟩

theorem Splits.run_split (L : Splits T Inv Sim Good view) (b : Bytes) :
    ∀ (n : Nat) (a : Bytes) (r : R), a.length < n → Inv r → Clean Good (T.run r (a ++ b)) →
    okE (T.run r a).2.2 ∧ Clean Good (T.run (T.run r a).1 b) ∧
    pay view (T.run r (a ++ b)).2.2 = pay view (T.run r a).2.2 ++ pay view (T.run (T.run r a).1 b).2.2 := by
  by_cases hb : b = []
  · intro _ a r _ _ hc
    subst hb
    rw [List.append_nil] at hc ⊢
    rw [run_nil]
    exact ⟨hc.1, ⟨nofun, rfl, hc.2.2⟩, by simp [pay]⟩
  intro n
  induction n with
  | zero => intro a r hn; omega
  | succ n ih =>
    intro a r hn hI hc
    by_cases ha : a = []
    · subst ha
      rw [run_nil]
      exact ⟨nofun, hc, by simp [pay]⟩
    · have hab : a ++ b ≠ [] := by simp [ha]
      have hinv := hc.ne_invalid hab
      rw [L.run_cons hI hab hinv] at hc ⊢
      have hg : (T.receive r (a ++ b)).2.1 = [] → Good (T.next r (a ++ b)) := fun h => by
        have := (clean_resume.mp hc).2
        rw [h, run_nil] at this
        exact this.2.2
      have hI1 := L.step r a hI
      -- the rest of the single-read run, seen from the state the call on `a` leaves
      have C : (T.receive r a).2.2 ≠ .invalid ∧ Clean Good (T.run (T.next r a) ((T.receive r a).2.1 ++ b)) ∧
          pay view (T.resume (T.receive r (a ++ b))).2.2 =
            pay view [((T.receive r a).2.2, (T.receive r a).1)] ++
              pay view (T.run (T.next r a) ((T.receive r a).2.1 ++ b)).2.2 := by
        rcases L.split r a b hI hb hinv hg with h | ⟨hs, s1, s2⟩
        · rw [h] at hc hinv ⊢
          exact ⟨hinv, (clean_resume.mp hc).2, pay_cons view _ _⟩
        · have hne' : (T.receive r a).2.1 ++ b ≠ [] := by simp [hb]
          obtain ⟨e1, e2⟩ := L.resume_sim _ _ _ (Nat.lt_succ_self _) (L.step r (a ++ b) hI) (L.step _ _ hI1) s1 s2 hc
          rw [← L.run_cons hI1 hne' (s2 ▸ hinv)] at e1 e2
          exact ⟨silent_ne hs, e1, by rw [e2, pay_silent view _ hs]; rfl⟩
      obtain ⟨hinv1, c1, c2⟩ := C
      have hlt := L.receive_lt hI ha hinv1
      obtain ⟨i0, i1, i2⟩ := ih (T.receive r a).2.1 (T.next r a) (by omega) hI1 c1
      rw [L.run_cons hI ha hinv1, c2, i2, ← List.append_assoc]
      exact ⟨(okE_cons _ _).mpr ⟨hinv1, i0⟩, i1, congrArg (· ++ _) (pay_cons view _ _).symm⟩

theorem Splits.feedE_flatten (L : Splits T Inv Sim Good view) (ps : List Bytes) :
    ∀ (r : R), Inv r → Clean Good (T.run r ps.flatten) →
    okE (T.feedE r ps).2 ∧ pay view (T.feedE r ps).2 = pay view (T.run r ps.flatten).2.2 := by
  induction ps with
  | nil => intro r _ _; exact ⟨nofun, by simp [feedE, run_nil]⟩
  | cons p ps ih =>
    intro r hI hc
    simp only [feedE, List.flatten_cons] at hc ⊢
    obtain ⟨i0, i1, i2⟩ := L.run_split ps.flatten _ p r (Nat.lt_succ_self _) hI hc
    obtain ⟨j1, j2⟩ := ih _ (L.run_inv r p hI) i1
    exact ⟨List.forall_mem_append.2 ⟨i0, j1⟩, by rw [pay_append, i2, j2]⟩

theorem Splits.frag (L : Splits T Inv Sim Good view) (mk : Rx → Nat → R → D) (ev : D → Rx × R)
    (hev : ∀ x n s, ev (mk x n s) = (x, s)) {r : R} (hI : Inv r) (bs : Bytes)
    (h1 : (T.readLoop mk (bs.length + 1) r bs []).2.1 = [])
    (h2 : ∀ d ∈ (T.readLoop mk (bs.length + 1) r bs []).2.2, (ev d).1 ≠ .invalid)
    (h3 : Good (T.readLoop mk (bs.length + 1) r bs []).1)
    (ps : List Bytes) (hps : ps.flatten = bs) :
    (∀ d ∈ (T.feed mk r ps).2, (ev d).1 ≠ .invalid) ∧
    pay view ((T.feed mk r ps).2.map ev) = pay view ((T.feed mk r [bs]).2.map ev) := by
  obtain ⟨l1, l2, l3⟩ := T.readLoop_loop mk ev hev (bs.length + 1) r bs []
  simp only [List.reverse_nil, List.map_nil, List.nil_append] at l3
  rw [l2] at h1
  rw [l1] at h3
  have hok : okE (T.run r bs).2.2 := by
    intro e he
    rw [run, ← l3] at he
    obtain ⟨d, hd, rfl⟩ := List.mem_map.mp he
    exact h2 d hd
  rw [(T.feed_feedE mk ev hev ps r).2, (T.feed_feedE mk ev hev [bs] r).2]
  subst hps
  obtain ⟨j1, j2⟩ := L.feedE_flatten ps r hI ⟨hok, h1, h3⟩
  refine ⟨fun d hd => j1 _ ?_, by rw [j2]; simp [feedE]⟩
  rw [← (T.feed_feedE mk ev hev ps r).2]
  exact List.mem_map_of_mem hd

end Rcv

end Via
