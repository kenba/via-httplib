import ViaProofs.Rx.Req
import ViaProofs.Rx.Resp
import ViaProofs.Rx.Stage
/-
  The induction principle for the properties of a receiver's state that `receive` keeps WHATEVER IT RETURNS (the bound on
  what is stored, C06; the conditions of the translation, `RR.Sane` / `RS.Sane`; "a parser that is not complete can go
  on", C01 / C07): such a property only has to be closed under the few updates `receive` is made of (`RR.Closed`: nine,
  `RS.Closed`: five).  Properties that depend on the result returned (`RR.Ok`, `RS.Ok` of C05) are kept only by
  `receive` followed by the handler's reaction: they are the invariant of `Rcv.Lawful` and do not go through this
  principle.
-/
namespace Via

structure RR.Closed (cfg : Cfg) (I : RR → Prop) : Prop where
  clear (x : RR) : I x.clear
  code (r : RR) (n : Nat) : I r → I { r with code := n }
  continued (r : RR) : I r → I { r with continueSent := true }
  isHead (r : RR) (b : Bool) : I r → I { r with isHead := b }
  head (r : RR) (buf : Bytes) : I r → r.request.valid = false → Kept RQ.fail (RQ.parse cfg r.request buf) →
    I { r with request := (RQ.parse cfg r.request buf).1 }
  /-- HEAD is presented as GET -/
  toGet (r : RR) : I r → r.request.isHead = true →
    I { r with request := { r.request with line := { r.request.line with method := (b!"GET") } } }
  /-- body bytes (from the input, or a chunk's data) are appended within `max_content_length`; the `max` is there so
      that no bound on the body already stored has to be carried along -/
  body (r : RR) (b : Bytes) : I r → (r.body ++ b).length ≤ max r.body.length cfg.maxContent →
    I { r with body := r.body ++ b }
  newChunk (r : RR) : I r → I { r with chunk := {} }
  chunk (r : RR) (buf : Bytes) : I r → r.chunk.valid = false → Kept CK.fail (CK.parse cfg r.chunk buf) →
    I { r with chunk := (CK.parse cfg r.chunk buf).1 }

namespace RR.Closed
variable {cfg : Cfg} {I : RR → Prop}

theorem pre (h : RR.Closed cfg I) (r : RR) (hi : I r) : I (RR.pre r) := h.code r _ hi

theorem finish (h : RR.Closed cfg I) (r : RR) (hi : I r) : I (RR.finish cfg r) := by
  have hh := h.isHead r r.request.isHead hi
  unfold RR.finish
  dsimp only
  split
  · next hc => exact h.toGet { r with isHead := r.request.isHead } hh (Bool.and_eq_true_iff.mp hc).1
  · exact hh

/-- the body grows to at most the announced length, which has passed the test against `max_content_length` -/
theorem accum (h : RR.Closed cfg I) (r : RR) (buf : Bytes)
    (hcl : r.request.headers.contentLength ≤ (cfg.maxContent : Int)) (hi : I r) : I (RR.accum cfg r buf).1 := by
  have hb := h.body r (buf.take (C07.takeN r.request.headers.contentLength r.body.length buf.length)) hi (by
    rw [List.length_append]
    refine Nat.le_trans (Nat.add_le_add_left (List.length_take_le _ _) _) ?_
    rcases C07.takeN_le r.request.headers.contentLength r.body.length buf.length with hk | hk
    · exact Nat.le_trans (by omega) (Nat.le_max_right _ _)
    · rw [hk]
      exact Nat.le_max_left _ _)
  unfold RR.accum
  exact ite_fst (h.finish _ hb) hb

theorem receiveBody (h : RR.Closed cfg I) (r : RR) (rp : Bool) (buf : Bytes) (hi : I r) :
    I (RR.receiveBody cfg r rp buf).1 := by
  by_cases hr : RR.Rejects cfg r buf
  · rw [RR.receiveBody_rejects cfg r rp buf hr]
    exact h.clear { code := RR.rejectCode cfg r }
  · rw [RR.receiveBody_passes cfg r rp buf hr]
    exact ite_fst (h.code _ 100 hi) (h.accum _ buf (Int.not_lt.mp fun hgt => hr (Or.inr (Or.inr (Or.inl hgt))))
      (h.pre r hi))

theorem reset (h : RR.Closed cfg I) (r : RR) (hi : I r) : I (RR.reset r) :=
  RR.reset_cases r (h.newChunk r hi) fun _ => hi

theorem chunkVerdict (h : RR.Closed cfg I) (r : RR) (k : CK) (bad : Bool) (hk : bad = false → I { r with chunk := k }) :
    I (RR.chunkVerdict cfg r k bad).1 := by
  unfold RR.chunkVerdict
  dsimp only
  by_cases hx : RR.chunkRx cfg r.body.length k bad = .invalid
  · rw [if_pos hx]
    exact h.clear { code := if bad = true then 400 else 413 }
  · rw [if_neg hx]
    have hb : bad = false := by
      cases bad
      · rfl
      · exact absurd (if_pos rfl) hx
    by_cases hc : k.valid = true ∧ RR.chunkRx cfg r.body.length k bad = .incomplete
    · rw [if_pos hc]
      have hfit := RR.chunkRx_incomplete hc.1 (hb ▸ hc.2)
      exact h.body _ _ (hk hb) (by rw [List.length_append]; exact Nat.le_trans hfit (Nat.le_max_right _ _))
    · rw [if_neg hc]
      exact hk hb

theorem receiveChunk (h : RR.Closed cfg I) (r : RR) (rp : Bool) (buf : Bytes) (hi : I r) :
    I (RR.receiveChunk cfg r rp buf).1 := by
  rw [RR.receiveChunk_eq]
  have h0 := h.reset r hi
  refine ite_fst (h.code _ 100 h0) (ite_fst h0 ?_)
  unfold RR.chunkParse
  dsimp only
  exact h.chunkVerdict _ _ _ fun hb =>
    h.chunk _ buf h0 (RR.reset_valid r) (Kept.of_not (by rw [hb]; exact Bool.false_ne_true))

theorem afterHead (h : RR.Closed cfg I) (r : RR) (rp : Bool) (buf : Bytes) (hi : I r) :
    I (RR.afterHead cfg r rp buf).1 := by
  unfold RR.afterHead
  exact ite_fst (h.code r 400 hi) (ite_fst (h.receiveBody r rp buf hi) (h.receiveChunk r rp buf hi))

theorem receive (h : RR.Closed cfg I) (r : RR) (buf : Bytes) (hi : I r) : I (RR.receive cfg r buf).1 := by
  cases hv : r.request.valid
  · rw [RR.receive_head cfg r buf hv]
    exact ite_fst' (fun hp => h.afterHead _ _ _ (h.head r buf hi hv (Or.inl hp))) fun _ =>
      ite_fst' (fun _ => h.clear { code := _ }) fun hbad => h.head r buf hi hv (Kept.of_not_or hbad)
  · rw [RR.receive_valid cfg r buf hv]
    exact h.afterHead r false buf hi

theorem afterResult (h : RR.Closed cfg I) (r : RR) (x : Rx) (hi : I r) : I (RR.afterResult cfg r x) := by
  rw [RR.afterResult_eq]
  exact iteInduction (fun _ => h.clear _) fun _ => iteInduction (fun _ => h.continued r hi) fun _ => hi

theorem next (h : RR.Closed cfg I) (r : RR) (buf : Bytes) (hi : I r) : I ((RR.rcv cfg).next r buf) :=
  h.afterResult _ _ (h.receive r buf hi)

end RR.Closed

structure RS.Closed (cfg : Cfg) (I : RS → Prop) : Prop where
  fresh : I {}
  head (r : RS) (buf : Bytes) : I r → r.response.valid = false → Kept RP.fail (RP.parse cfg r.response buf) →
    I { r with response := (RP.parse cfg r.response buf).1 }
  body (r : RS) (b : Bytes) : I r → I { r with body := r.body ++ b }
  newChunk (r : RS) : I r → I { r with chunk := {} }
  chunk (r : RS) (buf : Bytes) : I r → r.chunk.valid = false → Kept CK.fail (CK.parse cfg r.chunk buf) →
    I { r with chunk := (CK.parse cfg r.chunk buf).1 }

namespace RS.Closed
variable {cfg : Cfg} {I : RS → Prop}

theorem afterHead (h : RS.Closed cfg I) (r : RS) (rp : Bool) (buf : Bytes) (hi : I r) :
    I (RS.afterHead cfg r rp buf).1 := by
  rw [RS.afterHead_eq]
  have h0 : I (RS.reset r) := RS.reset_cases r (h.newChunk r hi) fun _ => hi
  -- the branches in the order of `RS.afterHead_eq`
  refine ite_fst (ite_fst h0 ?chunk) (ite_fst h.fresh (ite_fst (ite_fst h.fresh (h.body r buf hi)) ?known))
  case chunk =>
    unfold RS.chunkParse
    exact ite_fst' (fun _ => h.fresh) fun hbad =>
      have hk := h.chunk _ buf h0 (RS.reset_valid r) (Kept.of_not hbad)
      ite_fst hk hk
  case known =>
    rw [C07.accum_eq]
    exact h.body r _ hi

theorem receive (h : RS.Closed cfg I) (r : RS) (buf : Bytes) (hi : I r) : I (RS.receive cfg r buf).1 := by
  cases hv : r.response.valid
  · rw [RS.receive_head cfg r buf hv]
    exact ite_fst' (fun hp => h.afterHead _ _ _ (h.head r buf hi hv (Or.inl hp))) fun _ =>
      ite_fst' (fun _ => h.fresh) fun hbad => h.head r buf hi hv (Kept.of_not_or hbad)
  · rw [RS.receive_valid cfg r buf hv]
    exact h.afterHead r false buf hi

theorem afterResult (h : RS.Closed cfg I) (r : RS) (x : Rx) (hi : I r) : I (RS.afterResult r x) := by
  rw [RS.afterResult_eq]
  split
  · exact h.fresh
  · exact hi

theorem next (h : RS.Closed cfg I) (r : RS) (buf : Bytes) (hi : I r) : I ((RS.rcv cfg).next r buf) :=
  h.afterResult _ _ (h.receive r buf hi)

end RS.Closed

end Via
