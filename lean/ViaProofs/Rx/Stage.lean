import ViaProofs.Frag.Laws
/-
  How a receiver uses an incremental parser: it calls it on the buffer and looks at the returned flag, the rest and
  `fail`.  `Laws.cases` says what the laws mean for that use: the call on `a` either ends inside `a` (finished or
  rejected), and the call on `a ++ b` has the same outcome with `b` left over, or it consumes `a` without a verdict and
  the call on `a ++ b` is the call on `b` from the state it left.

  `ite_fst`, `ite_rel`: the conditionals of a receiver are walked with these and not with `split`, which is slow on
  goals that hold a whole function body.
-/
namespace Via

theorem ite_fst' {α β : Type} {P : α → Prop} {c : Prop} [Decidable c] {x y : α × β}
    (hx : c → P x.1) (hy : ¬ c → P y.1) : P (if c then x else y).1 :=
  iteInduction (motive := fun r : α × β => P r.1) hx hy

theorem ite_fst {α β : Type} {P : α → Prop} {c : Prop} [Decidable c] {x y : α × β} (hx : P x.1) (hy : P y.1) :
    P (if c then x else y).1 :=
  ite_fst' (fun _ => hx) fun _ => hy

theorem ite_rel {α β : Type} (R : α → β → Prop) {c : Prop} [Decidable c] {a a' : α} {b b' : β}
    (h : R a b) (h' : R a' b') : R (if c then a else a') (if c then b else b') := by
  split
  · exact h
  · exact h'

theorem Laws.cases {S : Type} {P : S → Bytes → S × Bytes × Bool} {done valid fail : S → Bool}
    (h : Laws P valid fail) (hdone : ∀ s, done s = (valid s || fail s))
    (s : S) (a b : Bytes) (hd : done s = false) :
    (((P s a).2.2 = true ∨ (P s a).2.1 ≠ [] ∨ fail (P s a).1 = true) ∧
      P s (a ++ b) = ((P s a).1, (P s a).2.1 ++ b, (P s a).2.2)) ∨
    ((P s a).2.2 = false ∧ (P s a).2.1 = [] ∧ fail (P s a).1 = false ∧ valid (P s a).1 = false ∧
      done (P s a).1 = false ∧ P s (a ++ b) = P (P s a).1 b) := by
  rw [hdone, Bool.or_eq_false_iff] at hd
  have hval := h.flag s a hd.1
  have hs := h.seq s a b hd.1 hd.2
  have hdn := hdone (P s a).1
  generalize P s a = p at *
  obtain ⟨s1, rest, bo⟩ := p
  dsimp only at *
  cases bo
  · cases hf : fail s1
    · cases rest with
      | nil => exact Or.inr ⟨rfl, rfl, rfl, hval, by rw [hdn, hval, hf]; rfl, by simpa [hf] using hs⟩
      | cons c cs => exact Or.inl ⟨Or.inr (Or.inl (by simp)), by simpa [hf] using hs⟩
    · exact Or.inl ⟨Or.inr (Or.inr rfl), by simpa [hf] using hs⟩
  · exact Or.inl ⟨Or.inl rfl, by simpa using hs⟩

/-- the receivers' test for clearing does not look at the bytes left over, only at whether there are any -/
theorem clears_append {S : Type} {fail : S → Bool} {p : S × Bytes × Bool} (b : Bytes)
    (h : p.2.2 = true ∨ p.2.1 ≠ [] ∨ fail p.1 = true) :
    (!p.2.2 && (!(p.2.1 ++ b).isEmpty || fail p.1)) = (!p.2.2 && (!p.2.1.isEmpty || fail p.1)) := by
  obtain ⟨s, rest, ok⟩ := p
  cases ok with
  | true => rfl
  | false =>
    cases rest with
    | cons c cs => simp
    | nil => rcases h with h | h | h <;> simp_all

/-- the outcomes `(s', rest, ok)` of a sub-parser after which the receiver is not cleared -/
def Kept {S : Type} (fail : S → Bool) (p : S × Bytes × Bool) : Prop := p.2.2 = true ∨ (p.2.1 = [] ∧ fail p.1 = false)

theorem Kept.of_false {S : Type} {fail : S → Bool} {s : S} {rest : Bytes} (h : Kept fail (s, rest, false)) :
    rest = [] ∧ fail s = false := h.resolve_left (by simp)

theorem Kept.part {S L : Type} {fail : S → Bool} {fail' : L → Bool} {s : S} {p : L × Bytes × Bool}
    (h : Kept fail (s, p.2.1, false)) (hf : fail s = false → fail' p.1 = false) : Kept fail' p :=
  Or.inr ⟨h.of_false.1, hf h.of_false.2⟩

/-- the receivers' test for clearing, negated -/
theorem Kept.of_not {S : Type} {fail : S → Bool} {p : S × Bytes × Bool}
    (h : ¬ (!p.2.2 && (!p.2.1.isEmpty || fail p.1)) = true) : Kept fail p := by
  rcases p with ⟨s, rest, ok⟩
  cases ok
  · refine Or.inr ?_
    cases rest <;> simp_all
  · exact Or.inl rfl

/-- the same, for the test as `receive_head` has it -/
theorem Kept.of_not_or {S : Type} {fail : S → Bool} {p : S × Bytes × Bool}
    (h : ¬ (p.2.1 ≠ [] ∨ fail p.1 = true)) : Kept fail p :=
  Or.inr ⟨Classical.not_not.mp fun hr => h (Or.inl hr), Bool.eq_false_iff.mpr fun hf => h (Or.inr hf)⟩

theorem Laws.kept_done {S : Type} {P : S → Bytes → S × Bytes × Bool} {done valid fail : S → Bool}
    (h : Laws P valid fail) (hdone : ∀ s, done s = (valid s || fail s)) (s : S) (a : Bytes) (hv : valid s = false)
    (hk : Kept fail (P s a)) (hv' : valid (P s a).1 = false) : done (P s a).1 = false := by
  rw [hdone, hv', Bool.false_or]
  rw [h.flag s a hv] at hv'
  exact (hk.resolve_left (by rw [hv']; exact Bool.false_ne_true)).2

end Via
