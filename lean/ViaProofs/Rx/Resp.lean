import ViaModel.RespRx
import ViaProofs.Rx.Body
import ViaProofs.Rx.Loop
/-
  `response_receiver::receive` in pieces: the equations every proof about `RS.receive` starts from.  `RS.afterHead` is a
  verbatim copy of what follows the head stage in the definition, which is the shape the translated code is compared
  with; `RS.afterHead_eq` is its normal form.
-/
namespace Via

namespace C07

def accum (r : RS) (buf : Bytes) : RS × Bytes × Rx :=
  let cl : Int := r.response.headers.contentLength
  let take : Nat := takeN cl r.body.length buf.length
  let r1 := { r with body := r.body ++ buf.take take }
  if (r1.body.length : Int) == cl then (r1, buf.drop take, .valid)
  else (r1, buf.drop take, .incomplete)

end C07

namespace RS

def afterHead (cfg : Cfg) (r : RS) (responseParsed : Bool) (buf : Bytes) : RS × Bytes × Rx :=
  if !r.response.headers.isChunked then
    let cl0 : Int := r.response.headers.contentLength
    if cl0 < 0 then (r.clear, buf, .invalid)
    else
      let rxSize : Int := buf.length
      let noCl : Bool :=
        rxSize > 0 && cl0 == 0 && (r.response.headers.fields.find (b!"content-length")).isEmpty
      let cl : Int := if noCl then (cfg.maxContent : Int) else cl0
      let required : Int := cl - r.body.length
      if rxSize > required && noCl then (r.clear, buf, .invalid)
      else
        let take : Nat := if rxSize > required then required.toNat else buf.length
        let r := { r with body := r.body ++ buf.take take }
        let rest := buf.drop take
        if (r.body.length : Int) == cl0 then (r, rest, .valid) else (r, rest, .incomplete)
  else
    let r := if r.chunk.valid then { r with chunk := {} } else r
    if responseParsed then (r, buf, .valid)
    else
      let p := CK.parse cfg r.chunk buf
      let r := { r with chunk := p.1 }
      if !p.2.2 && (!p.2.1.isEmpty || r.chunk.fail) then (r.clear, p.2.1, .invalid)
      else if r.chunk.valid then (r, p.2.1, .chunk)
      else (r, p.2.1, .incomplete)

/-- the model's `receive` without the intermediate `Option` -/
theorem receive_eq (cfg : Cfg) (r : RS) (buf : Bytes) :
    RS.receive cfg r buf =
      (if !r.response.valid then
         let p := RP.parse cfg r.response buf
         if !p.2.2 then
           if !p.2.1.isEmpty || p.1.fail then (({ r with response := p.1 } : RS).clear, p.2.1, .invalid)
           else ({ r with response := p.1 }, p.2.1, .incomplete)
         else RS.afterHead cfg { r with response := p.1 } true p.2.1
       else RS.afterHead cfg r false buf) := by
  unfold RS.receive
  cases hv : r.response.valid
  · cases hp : (RP.parse cfg r.response buf).2.2
    · cases hb : (!(RP.parse cfg r.response buf).2.1.isEmpty || (RP.parse cfg r.response buf).1.fail)
      · simp only [Bool.not_false, if_true, hp, hb, Bool.false_eq_true, if_false]
      · simp only [Bool.not_false, if_true, hp, hb]
    · simp only [Bool.not_false, if_true, hp, Bool.not_true, Bool.false_eq_true, if_false]
      rfl
  · rfl

theorem receive_valid (cfg : Cfg) (r : RS) (buf : Bytes) (hv : r.response.valid = true) :
    RS.receive cfg r buf = RS.afterHead cfg r false buf := by
  simp only [receive_eq, hv, Bool.not_true, Bool.false_eq_true, if_false]

theorem receive_head (cfg : Cfg) (r : RS) (buf : Bytes) (hv : r.response.valid = false) :
    RS.receive cfg r buf =
      if (RP.parse cfg r.response buf).2.2 = true then
        RS.afterHead cfg { r with response := (RP.parse cfg r.response buf).1 } true (RP.parse cfg r.response buf).2.1
      else if (RP.parse cfg r.response buf).2.1 ≠ [] ∨ (RP.parse cfg r.response buf).1.fail = true then
        ({}, (RP.parse cfg r.response buf).2.1, .invalid)
      else ({ r with response := (RP.parse cfg r.response buf).1 }, [], .incomplete) := by
  rw [receive_eq]
  simp only [hv, Bool.not_false, if_true]
  generalize RP.parse cfg r.response buf = p
  obtain ⟨q, rest, bo⟩ := p
  cases bo <;> cases rest <;> cases q.fail <;> simp [RS.clear]

theorem receive_cases (cfg : Cfg) (r : RS) (buf : Bytes) :
    (r.response.valid = true ∧ RS.receive cfg r buf = afterHead cfg r false buf) ∨
    (r.response.valid = false ∧ (RP.parse cfg r.response buf).2.2 = true ∧
      RS.receive cfg r buf =
        afterHead cfg { r with response := (RP.parse cfg r.response buf).1 } true (RP.parse cfg r.response buf).2.1) ∨
    (r.response.valid = false ∧ (RP.parse cfg r.response buf).2.2 = false ∧
      RS.receive cfg r buf = ({}, (RP.parse cfg r.response buf).2.1, .invalid)) ∨
    (r.response.valid = false ∧ (RP.parse cfg r.response buf).2.2 = false ∧
      (RP.parse cfg r.response buf).1.fail = false ∧
      RS.receive cfg r buf = ({ r with response := (RP.parse cfg r.response buf).1 }, [], .incomplete)) := by
  cases hv : r.response.valid
  · rw [receive_head cfg r buf hv]
    cases hp : (RP.parse cfg r.response buf).2.2
    · rw [if_neg Bool.false_ne_true]
      split
      · exact Or.inr (Or.inr (Or.inl ⟨rfl, rfl, rfl⟩))
      · rename_i h
        exact Or.inr (Or.inr (Or.inr ⟨rfl, rfl, Bool.eq_false_iff.mpr fun hf => h (Or.inr hf), rfl⟩))
    · rw [if_pos rfl]; exact Or.inr (Or.inl ⟨rfl, rfl, rfl⟩)
  · exact Or.inl ⟨rfl, receive_valid cfg r buf hv⟩

def lengthless (r : RS) : Bool := (r.response.headers.fields.find (b!"content-length")).isEmpty

theorem lengthless_cl (r : RS) (h : lengthless r = true) : r.response.headers.contentLength = 0 := by
  unfold lengthless at h
  simp [MH.contentLength, h]

/-- the previous chunk is dropped when a new one starts -/
def reset (r : RS) : RS := if r.chunk.valid then { r with chunk := {} } else r

def chunkParse (cfg : Cfg) (r : RS) (buf : Bytes) : RS × Bytes × Rx :=
  let p := CK.parse cfg r.chunk buf
  let r := { r with chunk := p.1 }
  if !p.2.2 && (!p.2.1.isEmpty || r.chunk.fail) then (({} : RS), p.2.1, .invalid)
  else if r.chunk.valid then (r, p.2.1, .chunk)
  else (r, p.2.1, .incomplete)

theorem afterHead_eq (cfg : Cfg) (r : RS) (rp : Bool) (buf : Bytes) :
    RS.afterHead cfg r rp buf =
      if r.response.headers.isChunked = true then
        if rp = true then (reset r, buf, .valid) else chunkParse cfg (reset r) buf
      else if r.response.headers.contentLength < 0 then ({}, buf, .invalid)
      else if lengthless r = true ∧ buf ≠ [] then
        if (buf.length : Int) > (cfg.maxContent : Int) - r.body.length then ({}, buf, .invalid)
        else ({ r with body := r.body ++ buf }, [], .incomplete)
      else C07.accum r buf := by
  unfold RS.afterHead
  cases hc : r.response.headers.isChunked
  · simp only [Bool.not_false, if_true, Bool.false_eq_true, if_false]
    by_cases hneg : r.response.headers.contentLength < 0
    · simp only [hneg, if_true, RS.clear]
    · simp only [hneg, if_false]
      by_cases hL : lengthless r = true ∧ buf ≠ []
      · have h0 := lengthless_cl r hL.1
        have hpos : 0 < buf.length := List.length_pos_iff.mpr hL.2
        have hl : (r.response.headers.fields.find (b!"content-length")).isEmpty = true := hL.1
        have hgt : ((buf.length : Int) > 0) := by omega
        rw [if_pos hL]
        simp only [if_true, h0, hl, hgt, decide_true, beq_self_eq_true, Bool.and_self, Bool.and_true, RS.clear]
        by_cases hov : (buf.length : Int) > (cfg.maxContent : Int) - r.body.length
        · simp only [hov, decide_true, if_true]
        · have hb : ¬ ((r.body.length : Int) + buf.length = 0) := by omega
          simp [hov, hb]
      · have hn : (decide ((buf.length : Int) > 0) && r.response.headers.contentLength == 0 &&
            (r.response.headers.fields.find (b!"content-length")).isEmpty) = false := by
          cases hl : (r.response.headers.fields.find (b!"content-length")).isEmpty
          · simp
          · cases buf with
            | nil => simp
            | cons c cs => exact absurd ⟨hl, List.cons_ne_nil c cs⟩ hL
        rw [if_neg hL]
        simp only [if_false, hn, Bool.and_false, Bool.false_eq_true, C07.accum, C07.takeN]
        rfl
  · simp only [Bool.not_true, Bool.false_eq_true, if_false, if_true]
    cases rp
    · simp only [Bool.false_eq_true, if_false]; rfl
    · simp only [if_true]; rfl

end RS

namespace C07

theorem accum_eq (r : RS) (buf : Bytes) :
    accum r buf =
      ({ r with body := (takeBody r.response.headers.contentLength r.body buf).1 },
        (takeBody r.response.headers.contentLength r.body buf).2.1,
        if (takeBody r.response.headers.contentLength r.body buf).2.2 = true then .valid else .incomplete) := by
  unfold accum takeBody
  dsimp only
  split <;> rfl

theorem accum_short (r : RS) (a : Bytes)
    (h : (r.body.length : Int) + a.length < r.response.headers.contentLength) :
    accum r a = ({ r with body := r.body ++ a }, [], .incomplete) := by
  rw [accum_eq, takeBody_short h]
  rfl

theorem accum_short_append (r : RS) (a b : Bytes)
    (h : (r.body.length : Int) + a.length < r.response.headers.contentLength) :
    accum r (a ++ b) = accum { r with body := r.body ++ a } b := by
  rw [accum_eq, accum_eq, takeBody_short_append _ h]

theorem accum_long (r : RS) (a b : Bytes)
    (hpos : (r.body.length : Int) ≤ r.response.headers.contentLength)
    (h : r.response.headers.contentLength ≤ (r.body.length : Int) + a.length) :
    (accum r a).2.2 = .valid ∧
    accum r (a ++ b) = ((accum r a).1, (accum r a).2.1 ++ b, .valid) := by
  obtain ⟨h1, h2⟩ := takeBody_long _ _ a b hpos h
  rw [accum_eq, accum_eq, h2, h1]
  exact ⟨rfl, rfl⟩

theorem accum_facts (r : RS) (buf : Bytes) : (accum r buf).1.response = r.response ∧
    (accum r buf).1.chunk = r.chunk ∧
    ((accum r buf).2.2 = .valid ∨ (accum r buf).2.2 = .incomplete) := by
  unfold accum
  dsimp only
  split
  · exact ⟨rfl, rfl, Or.inl rfl⟩
  · exact ⟨rfl, rfl, Or.inr rfl⟩

end C07

namespace RS

theorem reset_cases {P : RS → Prop} (r : RS) (h1 : P { r with chunk := {} }) (h2 : r.chunk.valid = false → P r) :
    P (reset r) := by
  unfold reset
  exact iteInduction (fun _ => h1) fun h => h2 (by simpa using h)

theorem reset_facts (r : RS) : (reset r).response = r.response ∧ (reset r).body = r.body ∧
    (reset r).chunk.valid = false :=
  reset_cases (P := fun x => x.response = r.response ∧ x.body = r.body ∧ x.chunk.valid = false) r ⟨rfl, rfl, rfl⟩
    fun h => ⟨rfl, rfl, h⟩

theorem reset_valid (r : RS) : (reset r).chunk.valid = false := (reset_facts r).2.2

theorem reset_of_not_valid (r : RS) (h : r.chunk.valid = false) : reset r = r := by
  unfold reset
  simp [h]

theorem afterHead_chunked (cfg : Cfg) (r : RS) (rp : Bool) (buf : Bytes) (hc : r.response.headers.isChunked = true) :
    RS.afterHead cfg r rp buf = if rp = true then (reset r, buf, .valid) else chunkParse cfg (reset r) buf := by
  rw [afterHead_eq, if_pos hc]

theorem afterHead_neg (cfg : Cfg) (r : RS) (rp : Bool) (buf : Bytes) (hc : r.response.headers.isChunked = false)
    (hcl : r.response.headers.contentLength < 0) : RS.afterHead cfg r rp buf = ({}, buf, .invalid) := by
  rw [afterHead_eq, if_neg (by simp [hc]), if_pos hcl]

theorem afterHead_accum (cfg : Cfg) (r : RS) (rp : Bool) (buf : Bytes) (hc : r.response.headers.isChunked = false)
    (hcl : ¬ r.response.headers.contentLength < 0) (hL : ¬ (lengthless r = true ∧ buf ≠ [])) :
    RS.afterHead cfg r rp buf = C07.accum r buf := by
  rw [afterHead_eq, if_neg (by simp [hc]), if_neg hcl, if_neg hL]

theorem afterHead_known (cfg : Cfg) (r : RS) (rp : Bool) (buf : Bytes) (hc : r.response.headers.isChunked = false)
    (hcl : ¬ r.response.headers.contentLength < 0) (hL : lengthless r = false) :
    RS.afterHead cfg r rp buf = C07.accum r buf :=
  afterHead_accum cfg r rp buf hc hcl fun h => by rw [hL] at h; cases h.1

theorem afterHead_lengthless (cfg : Cfg) (r : RS) (rp : Bool) (buf : Bytes)
    (hc : r.response.headers.isChunked = false) (hL : lengthless r = true) (hne : buf ≠ []) :
    RS.afterHead cfg r rp buf =
      if (buf.length : Int) > (cfg.maxContent : Int) - r.body.length then ({}, buf, .invalid)
      else ({ r with body := r.body ++ buf }, [], .incomplete) := by
  have hcl : ¬ r.response.headers.contentLength < 0 := by rw [lengthless_cl r hL]; omega
  rw [afterHead_eq, if_neg (by simp [hc]), if_neg hcl, if_pos ⟨hL, hne⟩]

theorem receive_accum (cfg : Cfg) (r : RS) (buf : Bytes) (hv : r.response.valid = true)
    (hc : r.response.headers.isChunked = false) (hcl : ¬ r.response.headers.contentLength < 0)
    (hL : lengthless r = false) : RS.receive cfg r buf = C07.accum r buf := by
  rw [receive_valid cfg r buf hv, afterHead_known cfg r false buf hc hcl hL]

theorem receive_chunk (cfg : Cfg) (r : RS) (buf : Bytes) (hv : r.response.valid = true)
    (hc : r.response.headers.isChunked = true) (hk : r.chunk.valid = false) :
    RS.receive cfg r buf = chunkParse cfg r buf := by
  rw [receive_valid cfg r buf hv, afterHead_chunked cfg r false buf hc, reset_of_not_valid r hk]
  rfl

def clears (s : RS) : Rx → Bool
  | .invalid => true
  | .valid => !s.response.headers.isChunked
  | .chunk => s.chunk.isLast
  | _ => false

theorem afterResult_eq (s : RS) (x : Rx) : RS.afterResult s x = if clears s x = true then {} else s := by
  cases x <;> rfl

def rcv (cfg : Cfg) : Rcv RS := { receive := RS.receive cfg, after := RS.afterResult }

theorem readLoop_eq (cfg : Cfg) (fuel : Nat) : ∀ (r : RS) (buf : Bytes) (acc : List RDelivery),
    RS.readLoop cfg fuel r buf acc = (rcv cfg).readLoop RDelivery.mk fuel r buf acc := by
  induction fuel with
  | zero => intro r buf acc; rfl
  | succ n ih => intro r buf acc; simp only [RS.readLoop, Rcv.readLoop, ih]; rfl

end RS

end Via
