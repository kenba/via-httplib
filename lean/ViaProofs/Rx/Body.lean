import ViaModel.Cfg
/-
  The arithmetic of a body of announced length, shared by both receivers: how many bytes of a buffer belong to the body,
  and what that means for a buffer that arrives in two parts.  `C07.takeN` is named after the response receiver because
  `C07.accum`, its accumulation step (ViaProofs/Rx/Resp.lean), is written with it; the request receiver takes the same
  number.
-/
namespace Via

namespace C07

/-- the number of body bytes taken from a buffer of `m` bytes when `n` are stored -/
def takeN (cl : Int) (n m : Nat) : Nat := if (m : Int) > cl - n then (cl - n).toNat else m

end C07

/-- with `body` stored and `cl` bytes announced: the body after `buf`, the rest of `buf`, and whether the body is
    complete -/
def takeBody (cl : Int) (body buf : Bytes) : Bytes × Bytes × Bool :=
  let n := C07.takeN cl body.length buf.length
  (body ++ buf.take n, buf.drop n, ((body ++ buf.take n).length : Int) == cl)

theorem C07.takeN_eq (cl : Int) (n m : Nat) : C07.takeN cl n m = min (cl - n).toNat m := by
  unfold C07.takeN
  split <;> omega

theorem C07.takeN_le (cl : Int) (n m : Nat) : (C07.takeN cl n m : Int) ≤ cl - n ∨ C07.takeN cl n m = 0 := by
  unfold C07.takeN
  split
  · rcases Int.le_total 0 (cl - n) with h0 | h0
    · exact Or.inl (Int.le_of_eq (Int.toNat_of_nonneg h0))
    · exact Or.inr (Int.toNat_of_nonpos h0)
  · exact Or.inl (Int.not_lt.mp ‹_›)

theorem takeBody_eq (cl : Int) (body buf : Bytes) :
    takeBody cl body buf =
      (body ++ buf.take (cl - body.length).toNat, buf.drop (cl - body.length).toNat,
        ((body ++ buf.take (cl - body.length).toNat).length : Int) == cl) := by
  rw [takeBody, C07.takeN_eq, ← List.take_eq_take_min, ← List.drop_eq_drop_min]

theorem takeBody_rest (cl : Int) (body buf : Bytes) : ∃ pre, buf = pre ++ (takeBody cl body buf).2.1 :=
  ⟨_, (List.take_append_drop _ buf).symm⟩

theorem takeBody_exact (cl : Int) (body a b : Bytes) (h : (body.length : Int) + a.length = cl) :
    takeBody cl body (a ++ b) = (body ++ a, b, true) := by
  have hn : (cl - body.length).toNat = a.length := by omega
  rw [takeBody_eq, hn, List.take_left' rfl, List.drop_left' rfl, List.length_append, Int.natCast_add, h, beq_self_eq_true]

theorem takeBody_short {cl : Int} {body a : Bytes} (h : (body.length : Int) + a.length < cl) :
    takeBody cl body a = (body ++ a, [], false) := by
  have hn : a.length ≤ (cl - body.length).toNat := by omega
  rw [takeBody_eq, List.take_of_length_le hn, List.drop_eq_nil_of_le hn, List.length_append, Int.natCast_add,
    beq_eq_false_iff_ne.2 (Int.ne_of_lt h)]

theorem takeBody_short_append {cl : Int} {body a : Bytes} (b : Bytes) (h : (body.length : Int) + a.length < cl) :
    takeBody cl body (a ++ b) = takeBody cl (body ++ a) b := by
  have hn : a.length ≤ (cl - body.length).toNat := by omega
  have hm : (cl - body.length).toNat - a.length = (cl - (body ++ a).length).toNat := by
    rw [List.length_append]; omega
  rw [takeBody_eq, takeBody_eq, List.take_append, List.drop_append, List.take_of_length_le hn,
    List.drop_eq_nil_of_le hn, hm, List.nil_append, List.append_assoc]

theorem takeBody_long (cl : Int) (body a b : Bytes) (hpos : (body.length : Int) ≤ cl)
    (h : cl ≤ (body.length : Int) + a.length) :
    (takeBody cl body a).2.2 = true ∧
    takeBody cl body (a ++ b) = ((takeBody cl body a).1, (takeBody cl body a).2.1 ++ b, true) := by
  -- `a` is the missing part of the body followed by the rest
  have hn : ((body.length : Int) + (a.take (cl - body.length).toNat).length) = cl := by
    rw [List.length_take]; omega
  have ea : a = a.take (cl - body.length).toNat ++ a.drop (cl - body.length).toNat := (List.take_append_drop _ a).symm
  have e1 := takeBody_exact cl body _ (a.drop (cl - body.length).toNat) hn
  have e2 := takeBody_exact cl body _ (a.drop (cl - body.length).toNat ++ b) hn
  rw [← List.append_assoc, ← ea] at e2
  rw [← ea] at e1
  rw [e1, e2]
  exact ⟨rfl, rfl⟩

theorem takeBody_progress {cl : Int} {body buf : Bytes} (hlt : (body.length : Int) < cl) (hne : buf ≠ []) :
    (takeBody cl body buf).2.1.length < buf.length := by
  have hpos : 0 < buf.length := List.length_pos_iff.mpr hne
  rw [takeBody_eq, List.length_drop]
  omega

theorem takeBody_le (cl : Int) (body buf : Bytes) (hle : (body.length : Int) ≤ cl) :
    (takeBody cl body buf).2.2 = true ∨ ((takeBody cl body buf).1.length : Int) < cl := by
  simp only [takeBody_eq, List.length_append, List.length_take, beq_iff_eq]
  omega

end Via
