import ViaModel.ReqRx
import ViaProofs.Rx.Body
import ViaProofs.Rx.Loop
/-
  `request_receiver::receive` in pieces: the equations every proof about `RR.receive` starts from.  The head stage is
  followed by `RR.afterHead` (Host check, then one of two branches); each branch is brought to a normal form
  (`RR.receiveBody_eq`, `RR.receiveChunk_eq`), the Content-Length branch also as three equations with named conditions
  (`RR.Rejects`, `RR.Expects`).
-/
namespace Via

namespace RR

def afterHead (cfg : Cfg) (r : RR) (rp : Bool) (buf : Bytes) : RR × Bytes × Rx :=
  if r.request.missingHost then ({ r with code := 400 }, buf, .invalid)
  else if !r.request.headers.isChunked then RR.receiveBody cfg r rp buf
  else RR.receiveChunk cfg r rp buf

theorem afterHead_noHost (cfg : Cfg) (r : RR) (rp : Bool) (buf : Bytes) (hm : r.request.missingHost = true) :
    afterHead cfg r rp buf = ({ r with code := 400 }, buf, .invalid) := by
  simp only [afterHead, hm, if_true]

theorem afterHead_body (cfg : Cfg) (r : RR) (rp : Bool) (buf : Bytes) (hm : r.request.missingHost = false)
    (hc : r.request.headers.isChunked = false) : afterHead cfg r rp buf = RR.receiveBody cfg r rp buf := by
  simp only [afterHead, hm, hc, Bool.false_eq_true, if_false, Bool.not_false, if_true]

theorem afterHead_chunk (cfg : Cfg) (r : RR) (rp : Bool) (buf : Bytes) (hm : r.request.missingHost = false)
    (hc : r.request.headers.isChunked = true) : afterHead cfg r rp buf = RR.receiveChunk cfg r rp buf := by
  simp only [afterHead, hm, hc, Bool.false_eq_true, if_false, Bool.not_true]

def errCode (st : RLS) : Nat :=
  match st with
  | .errMethodLength => 501
  | .errUriLength => 414
  | _ => 400

/-- the model's `receive` without the intermediate `Option` -/
theorem receive_eq (cfg : Cfg) (r : RR) (buf : Bytes) :
    RR.receive cfg r buf =
      (if !r.request.valid then
         let p := RQ.parse cfg r.request buf
         if !p.2.2 then
           if !p.2.1.isEmpty || p.1.fail then
             (({ r with request := p.1, code := RR.errCode p.1.line.st } : RR).clear, p.2.1, .invalid)
           else ({ r with request := p.1 }, p.2.1, .incomplete)
         else RR.afterHead cfg { r with request := p.1 } true p.2.1
       else RR.afterHead cfg r false buf) := by
  unfold RR.receive
  cases hv : r.request.valid
  · cases hp : (RQ.parse cfg r.request buf).2.2
    · cases hb : (!(RQ.parse cfg r.request buf).2.1.isEmpty || (RQ.parse cfg r.request buf).1.fail)
      · simp only [Bool.not_false, if_true, hp, hb, Bool.false_eq_true, if_false]
      · simp only [Bool.not_false, if_true, hp, hb]
        rfl
    · simp only [Bool.not_false, if_true, hp, Bool.not_true, Bool.false_eq_true, if_false]
      rfl
  · rfl

theorem receive_valid (cfg : Cfg) (r : RR) (buf : Bytes) (hv : r.request.valid = true) :
    RR.receive cfg r buf = RR.afterHead cfg r false buf := by
  simp only [receive_eq, hv, Bool.not_true, Bool.false_eq_true, if_false]

theorem receive_head (cfg : Cfg) (r : RR) (buf : Bytes) (hv : r.request.valid = false) :
    RR.receive cfg r buf =
      if (RQ.parse cfg r.request buf).2.2 = true then
        RR.afterHead cfg { r with request := (RQ.parse cfg r.request buf).1 } true (RQ.parse cfg r.request buf).2.1
      else if (RQ.parse cfg r.request buf).2.1 ≠ [] ∨ (RQ.parse cfg r.request buf).1.fail = true then
        ({ code := RR.errCode (RQ.parse cfg r.request buf).1.line.st }, (RQ.parse cfg r.request buf).2.1, .invalid)
      else ({ r with request := (RQ.parse cfg r.request buf).1 }, [], .incomplete) := by
  rw [receive_eq]
  simp only [hv, Bool.not_false, if_true]
  generalize RQ.parse cfg r.request buf = p
  obtain ⟨q, rest, bo⟩ := p
  cases bo <;> cases rest <;> cases q.fail <;> simp [RR.clear]

theorem receive_cases (cfg : Cfg) (r : RR) (buf : Bytes) :
    (r.request.valid = true ∧ RR.receive cfg r buf = afterHead cfg r false buf) ∨
    (r.request.valid = false ∧ (RQ.parse cfg r.request buf).2.2 = true ∧
      RR.receive cfg r buf =
        afterHead cfg { r with request := (RQ.parse cfg r.request buf).1 } true (RQ.parse cfg r.request buf).2.1) ∨
    (r.request.valid = false ∧ (RQ.parse cfg r.request buf).2.2 = false ∧
      RR.receive cfg r buf =
        ({ code := errCode (RQ.parse cfg r.request buf).1.line.st }, (RQ.parse cfg r.request buf).2.1, .invalid)) ∨
    (r.request.valid = false ∧ (RQ.parse cfg r.request buf).2.2 = false ∧
      (RQ.parse cfg r.request buf).1.fail = false ∧
      RR.receive cfg r buf = ({ r with request := (RQ.parse cfg r.request buf).1 }, [], .incomplete)) := by
  cases hv : r.request.valid
  · rw [receive_head cfg r buf hv]
    cases hp : (RQ.parse cfg r.request buf).2.2
    · rw [if_neg Bool.false_ne_true]
      split
      · exact Or.inr (Or.inr (Or.inl ⟨rfl, rfl, rfl⟩))
      · rename_i h
        exact Or.inr (Or.inr (Or.inr ⟨rfl, rfl, Bool.eq_false_iff.mpr fun hf => h (Or.inr hf), rfl⟩))
    · rw [if_pos rfl]; exact Or.inr (Or.inl ⟨rfl, rfl, rfl⟩)
  · exact Or.inl ⟨rfl, receive_valid cfg r buf hv⟩

/-! ### the Content-Length branch -/

/-- the TRACE check only changes the proposed status -/
def pre (r : RR) : RR := { r with code := if r.request.isTrace then 405 else r.code }

def finish (cfg : Cfg) (r : RR) : RR :=
  let isHead := r.request.isHead
  let r := { r with isHead := isHead }
  if isHead && cfg.translateHead
    then { r with request := { r.request with line := { r.request.line with method := (b!"GET") } } } else r

def accum (cfg : Cfg) (r : RR) (buf : Bytes) : RR × Bytes × Rx :=
  let t := takeBody r.request.headers.contentLength r.body buf
  if t.2.2 then (finish cfg { r with body := t.1 }, t.2.1, .valid) else ({ r with body := t.1 }, t.2.1, .incomplete)

theorem receiveBody_eq (cfg : Cfg) (r : RR) (rp : Bool) (buf : Bytes) :
    RR.receiveBody cfg r rp buf =
      (let cl : Int := r.request.headers.contentLength
       if (r.request.isTrace = true ∧ cl ≠ 0) ∨ cl < 0 then (({ code := 400 } : RR), buf, .invalid)
       else if cl > (cfg.maxContent : Int) then (({ code := 413 } : RR), buf, .invalid)
       else if cl ≤ 0 ∧ buf ≠ [] ∧ (r.request.headers.fields.find (b!"content-length")).isEmpty = true then
         (({ code := 411 } : RR), buf, .invalid)
       else if rp = true ∧ (buf.length : Int) < cl ∧ r.request.expectContinue = true ∧ r.continueSent = false then
         ({ r with code := 100 }, buf, .expectContinue)
       else accum cfg (pre r) buf) := by
  -- the model tests `cl > 0 && cl > max_content_length` and `rx_size > 0`
  have e2 : (0 < r.request.headers.contentLength ∧ (cfg.maxContent : Int) < r.request.headers.contentLength) ↔
      (cfg.maxContent : Int) < r.request.headers.contentLength := ⟨And.right, fun h => ⟨by omega, h⟩⟩
  have hm : ¬ (cfg.maxContent : Int) < 0 := by omega
  unfold RR.receiveBody
  dsimp only
  cases ht : r.request.isTrace
  · simp [pre, ht, accum, takeBody, C07.takeN, finish, RR.clear, RQ.expectContinue, RQ.isHead, e2, and_assoc,
      List.length_pos_iff]
  · by_cases h0 : r.request.headers.contentLength = 0
    · simp [h0, hm, pre, ht, accum, takeBody, C07.takeN, finish, RR.clear, RQ.expectContinue, RQ.isHead, and_assoc,
        List.length_pos_iff]
    · simp [h0, RR.clear]

theorem finish_facts (cfg : Cfg) (r : RR) : (finish cfg r).request.valid = r.request.valid ∧
    (finish cfg r).request.headers = r.request.headers ∧
    (finish cfg r).continueSent = r.continueSent ∧ (finish cfg r).chunk = r.chunk ∧
    (finish cfg r).body = r.body ∧ (finish cfg r).code = r.code := by
  unfold finish
  dsimp only
  split <;> exact ⟨rfl, rfl, rfl, rfl, rfl, rfl⟩

theorem finish_body (cfg : Cfg) (r : RR) : (finish cfg r).body = r.body := (finish_facts cfg r).2.2.2.2.1

theorem finish_code (cfg : Cfg) (r : RR) : (finish cfg r).code = r.code := (finish_facts cfg r).2.2.2.2.2

theorem accum_facts (cfg : Cfg) (r : RR) (buf : Bytes) : (accum cfg r buf).1.request.valid = r.request.valid ∧
    (accum cfg r buf).1.request.headers = r.request.headers ∧
    (accum cfg r buf).1.continueSent = r.continueSent ∧ (accum cfg r buf).1.chunk = r.chunk ∧
    ((accum cfg r buf).2.2 = .valid ∨ (accum cfg r buf).2.2 = .incomplete) := by
  unfold accum
  dsimp only
  split
  · obtain ⟨h1, h2, h3, h4, _⟩ := finish_facts cfg
      { r with body := (takeBody r.request.headers.contentLength r.body buf).1 }
    exact ⟨h1, h2, h3, h4, Or.inl rfl⟩
  · exact ⟨rfl, rfl, rfl, rfl, Or.inr rfl⟩

theorem accum_rx (cfg : Cfg) (r : RR) (buf : Bytes) :
    (accum cfg r buf).2.2 = .valid ∨ (accum cfg r buf).2.2 = .incomplete := (accum_facts cfg r buf).2.2.2.2

theorem accum_take (cfg : Cfg) (r : RR) (buf : Bytes) :
    (accum cfg r buf).2.1 = (takeBody r.request.headers.contentLength r.body buf).2.1 ∧
    (accum cfg r buf).1.body = (takeBody r.request.headers.contentLength r.body buf).1 ∧
    ((accum cfg r buf).2.2 = .valid ∨ (takeBody r.request.headers.contentLength r.body buf).2.2 = false) := by
  unfold accum
  dsimp only
  split
  · exact ⟨rfl, finish_body cfg _, Or.inl rfl⟩
  · rename_i h
    exact ⟨rfl, rfl, Or.inr (by simpa using h)⟩

theorem accum_short (cfg : Cfg) (r : RR) (a : Bytes)
    (h : (r.body.length : Int) + a.length < r.request.headers.contentLength) :
    accum cfg r a = ({ r with body := r.body ++ a }, [], .incomplete) := by
  unfold accum
  rw [takeBody_short h]
  rfl

theorem accum_short_append (cfg : Cfg) (r : RR) (a b : Bytes)
    (h : (r.body.length : Int) + a.length < r.request.headers.contentLength) :
    accum cfg r (a ++ b) = accum cfg { r with body := r.body ++ a } b := by
  unfold accum
  rw [takeBody_short_append _ h]

theorem accum_long (cfg : Cfg) (r : RR) (a b : Bytes)
    (hpos : (r.body.length : Int) ≤ r.request.headers.contentLength)
    (h : r.request.headers.contentLength ≤ (r.body.length : Int) + a.length) :
    (accum cfg r a).2.2 = .valid ∧
    accum cfg r (a ++ b) = ((accum cfg r a).1, (accum cfg r a).2.1 ++ b, .valid) := by
  obtain ⟨h1, h2⟩ := takeBody_long _ _ a b hpos h
  unfold accum
  rw [h2]
  simp only [h1, if_true, and_self]

/-- why the Content-Length branch rejects: TRACE with a body; a Content-Length that is not a number, or is above the
    limit; bytes after the head without a Content-Length header (411) -/
def Rejects (cfg : Cfg) (r : RR) (buf : Bytes) : Prop :=
  (r.request.isTrace = true ∧ r.request.headers.contentLength ≠ 0) ∨ r.request.headers.contentLength < 0 ∨
  r.request.headers.contentLength > (cfg.maxContent : Int) ∨
  (r.request.headers.contentLength ≤ 0 ∧ buf ≠ [] ∧
    (r.request.headers.fields.find (b!"content-length")).isEmpty = true)

/-- the interim 100 Continue is due; `rp`: this call completed the head -/
def Expects (r : RR) (rp : Bool) (buf : Bytes) : Prop :=
  rp = true ∧ (buf.length : Int) < r.request.headers.contentLength ∧ r.request.expectContinue = true ∧
  r.continueSent = false

theorem Rejects.append {cfg : Cfg} {r : RR} {x : Bytes} (h : Rejects cfg r x) (b : Bytes) : Rejects cfg r (x ++ b) :=
  h.imp id (Or.imp id (Or.imp id (And.imp id (And.imp (fun hx e => hx (List.append_eq_nil_iff.mp e).1) id))))

theorem Expects.short {r : RR} {rp : Bool} {x b : Bytes} (h : Expects r rp (x ++ b)) : Expects r rp x :=
  ⟨h.1, by have := h.2.1; simp only [List.length_append] at this; omega, h.2.2⟩

theorem Rejects.of_pos {cfg : Cfg} {r : RR} {x : Bytes} (h : Rejects cfg r x)
    (hcl : r.request.headers.contentLength > 0) (y : Bytes) : Rejects cfg r y :=
  h.imp id (Or.imp id (Or.imp id fun h4 => absurd h4.1 (Int.not_le.mpr hcl)))

theorem pre_of_pos {cfg : Cfg} {r : RR} {buf : Bytes} (h : ¬ Rejects cfg r buf)
    (hcl : r.request.headers.contentLength > 0) : pre r = r := by
  unfold pre
  split
  · rename_i ht
    exact absurd (Or.inl ⟨ht, Int.ne_of_gt hcl⟩) h
  · rfl

def rejectCode (cfg : Cfg) (r : RR) : Nat :=
  if (r.request.isTrace = true ∧ r.request.headers.contentLength ≠ 0) ∨ r.request.headers.contentLength < 0 then 400
  else if r.request.headers.contentLength > (cfg.maxContent : Int) then 413 else 411

theorem receiveBody_rejects (cfg : Cfg) (r : RR) (rp : Bool) (buf : Bytes) (h : Rejects cfg r buf) :
    RR.receiveBody cfg r rp buf = ({ code := rejectCode cfg r }, buf, .invalid) := by
  rw [receiveBody_eq]
  unfold rejectCode
  dsimp only
  by_cases c1 : (r.request.isTrace = true ∧ r.request.headers.contentLength ≠ 0) ∨ r.request.headers.contentLength < 0
  · rw [if_pos c1, if_pos c1]
  by_cases c2 : r.request.headers.contentLength > (cfg.maxContent : Int)
  · rw [if_neg c1, if_pos c2, if_neg c1, if_pos c2]
  rw [if_neg c1, if_neg c2, if_neg c1, if_neg c2,
    if_pos (((h.resolve_left fun h => c1 (.inl h)).resolve_left fun h => c1 (.inr h)).resolve_left c2)]

theorem receiveBody_passes (cfg : Cfg) (r : RR) (rp : Bool) (buf : Bytes) (h : ¬ Rejects cfg r buf) :
    RR.receiveBody cfg r rp buf =
      if rp = true ∧ (buf.length : Int) < r.request.headers.contentLength ∧ r.request.expectContinue = true ∧
          r.continueSent = false
      then ({ r with code := 100 }, buf, .expectContinue) else accum cfg (pre r) buf := by
  rw [receiveBody_eq]
  dsimp only
  rw [if_neg fun c => h (c.elim .inl fun c => .inr (.inl c)), if_neg fun c => h (.inr (.inr (.inl c))),
    if_neg fun c => h (.inr (.inr (.inr c)))]

theorem receiveBody_expects (cfg : Cfg) (r : RR) (rp : Bool) (buf : Bytes) (h : ¬ Rejects cfg r buf)
    (he : Expects r rp buf) : RR.receiveBody cfg r rp buf = ({ r with code := 100 }, buf, .expectContinue) := by
  rw [receiveBody_passes cfg r rp buf h]
  exact if_pos he

theorem receiveBody_accum (cfg : Cfg) (r : RR) (rp : Bool) (buf : Bytes) (h : ¬ Rejects cfg r buf)
    (he : ¬ Expects r rp buf) : RR.receiveBody cfg r rp buf = accum cfg (pre r) buf := by
  rw [receiveBody_passes cfg r rp buf h]
  exact if_neg he

theorem rejects_of_receiveBody (cfg : Cfg) (r : RR) (rp : Bool) (buf : Bytes)
    (h : (RR.receiveBody cfg r rp buf).2.2 = .invalid) : Rejects cfg r buf := by
  refine Classical.byContradiction fun hn => ?_
  by_cases he : Expects r rp buf
  · rw [receiveBody_expects cfg r rp buf hn he] at h; cases h
  · rw [receiveBody_accum cfg r rp buf hn he] at h
    rcases accum_rx cfg (pre r) buf with h' | h' <;> rw [h] at h' <;> cases h'

theorem expects_of_receiveBody (cfg : Cfg) (r : RR) (rp : Bool) (buf : Bytes)
    (h : (RR.receiveBody cfg r rp buf).2.2 = .expectContinue) : Expects r rp buf := by
  refine Classical.byContradiction fun he => ?_
  by_cases hn : Rejects cfg r buf
  · rw [receiveBody_rejects cfg r rp buf hn] at h; cases h
  · rw [receiveBody_accum cfg r rp buf hn he] at h
    rcases accum_rx cfg (pre r) buf with h' | h' <;> rw [h] at h' <;> cases h'

/-! ### the chunked branch -/

/-- the previous chunk is dropped when a new one starts -/
def reset (r : RR) : RR := if r.chunk.valid then { r with chunk := {} } else r

/-- the result reported for the chunk parser's outcome `k` when `n` body bytes are stored; `bad`: the parser stopped
    with bytes left over, or failed -/
def chunkRx (cfg : Cfg) (n : Nat) (k : CK) (bad : Bool) : Rx :=
  if bad then .invalid
  else if !k.valid then .incomplete
  else if !cfg.concatChunks then .chunk
  else if k.isLast then .valid
  else if n + k.data.length > cfg.maxContent then .invalid else .incomplete

theorem chunkRx_incomplete {cfg : Cfg} {n : Nat} {k : CK} (hv : k.valid = true)
    (h : chunkRx cfg n k false = .incomplete) : n + k.data.length ≤ cfg.maxContent := by
  refine Nat.le_of_not_lt fun hgt => ?_
  rw [chunkRx, hv, if_pos hgt] at h
  revert h
  cases cfg.concatChunks <;> cases k.isLast <;> exact Rx.noConfusion

/-- `k.valid ∧ x = .incomplete`: chunks are concatenated and this is not the last one -/
def chunkVerdict (cfg : Cfg) (r : RR) (k : CK) (bad : Bool) : RR × Rx :=
  let x := chunkRx cfg r.body.length k bad
  (if x = .invalid then { code := if bad then 400 else 413 }
   else if k.valid = true ∧ x = .incomplete then { r with chunk := k, body := r.body ++ k.data }
   else { r with chunk := k }, x)

def chunkParse (cfg : Cfg) (r : RR) (buf : Bytes) : RR × Bytes × Rx :=
  let p := CK.parse cfg r.chunk buf
  let c := chunkVerdict cfg r p.1 (!p.2.2 && (!p.2.1.isEmpty || p.1.fail))
  (c.1, p.2.1, c.2)

theorem chunkParse_eq (cfg : Cfg) (r : RR) (buf : Bytes) :
    chunkParse cfg r buf =
      (let p := CK.parse cfg r.chunk buf
       let r := { r with chunk := p.1 }
       if !p.2.2 && (!p.2.1.isEmpty || r.chunk.fail) then ({ r with code := 400 }.clear, p.2.1, .invalid)
       else if r.chunk.valid then
         if cfg.concatChunks then
           if r.chunk.isLast then (r, p.2.1, .valid)
           else if r.body.length + r.chunk.data.length > cfg.maxContent then
             ({ r with code := 413 }.clear, p.2.1, .invalid)
           else ({ r with body := r.body ++ r.chunk.data }, p.2.1, .incomplete)
         else (r, p.2.1, .chunk)
       else (r, p.2.1, .incomplete)) := by
  unfold chunkParse chunkVerdict chunkRx
  generalize CK.parse cfg r.chunk buf = p
  dsimp only
  cases (!p.2.2 && (!p.2.1.isEmpty || p.1.fail)) <;> cases p.1.valid <;> cases cfg.concatChunks <;>
    cases p.1.isLast <;> try rfl
  all_goals
    by_cases h : r.body.length + p.1.data.length > cfg.maxContent
    · simp [h, RR.clear]
    · simp [h]

theorem reset_cases {P : RR → Prop} (r : RR) (h1 : P { r with chunk := {} }) (h2 : r.chunk.valid = false → P r) :
    P (reset r) := by
  unfold reset
  exact iteInduction (fun _ => h1) fun h => h2 (by simpa using h)

theorem reset_facts (r : RR) : (reset r).request = r.request ∧ (reset r).body = r.body ∧
    (reset r).continueSent = r.continueSent ∧ (reset r).isHead = r.isHead ∧ (reset r).code = r.code ∧
    (reset r).chunk.valid = false :=
  reset_cases (P := fun x => x.request = r.request ∧ x.body = r.body ∧ x.continueSent = r.continueSent ∧
    x.isHead = r.isHead ∧ x.code = r.code ∧ x.chunk.valid = false) r ⟨rfl, rfl, rfl, rfl, rfl, rfl⟩
    fun h => ⟨rfl, rfl, rfl, rfl, rfl, h⟩

theorem reset_valid (r : RR) : (reset r).chunk.valid = false := (reset_facts r).2.2.2.2.2

theorem reset_of_not_valid (r : RR) (h : r.chunk.valid = false) : reset r = r := by
  unfold reset
  simp [h]

theorem receiveChunk_eq (cfg : Cfg) (r : RR) (rp : Bool) (buf : Bytes) :
    RR.receiveChunk cfg r rp buf =
      if rp && (r.request.expectContinue && !r.continueSent) then
        ({ reset r with code := 100 }, buf, .expectContinue)
      else if rp && !cfg.concatChunks then (reset r, buf, .valid)
      else chunkParse cfg (reset r) buf := by
  obtain ⟨h1, _, h2, _⟩ := reset_facts r
  unfold RR.receiveChunk
  -- the model computes the early answer as an `Option Rx` and matches on it: the same term, written on `reset r`
  change (match (if rp then
      if (reset r).request.expectContinue && !(reset r).continueSent then some Rx.expectContinue
      else if !cfg.concatChunks then some .valid else none
    else none : Option Rx) with
    | some .expectContinue => ({ reset r with code := 100 }, buf, Rx.expectContinue)
    | some x => (reset r, buf, x)
    | none => _) = _
  rw [h1, h2, chunkParse_eq]
  cases rp <;> cases (r.request.expectContinue && !r.continueSent) <;> cases cfg.concatChunks <;> rfl

theorem chunkVerdict_frame (cfg : Cfg) (r : RR) (k : CK) (bad : Bool) :
    (chunkVerdict cfg r k bad).2 = .invalid ∨ (chunkVerdict cfg r k bad).1.request = r.request := by
  unfold chunkVerdict
  dsimp only
  split
  · rename_i h; exact Or.inl h
  · split <;> exact Or.inr rfl

theorem chunkRx_ne (cfg : Cfg) (n : Nat) (k : CK) (bad : Bool) : chunkRx cfg n k bad ≠ .expectContinue := by
  unfold chunkRx
  cases bad <;> cases k.valid <;> cases cfg.concatChunks <;> cases k.isLast <;> try exact Rx.noConfusion
  all_goals
    simp only [Bool.false_eq_true, if_false, Bool.not_true]
    split <;> exact Rx.noConfusion

theorem expects_of_receiveChunk (cfg : Cfg) (r : RR) (rp : Bool) (buf : Bytes)
    (h : (RR.receiveChunk cfg r rp buf).2.2 = .expectContinue) :
    rp = true ∧ r.request.expectContinue = true ∧ r.continueSent = false := by
  rw [receiveChunk_eq] at h
  split at h
  · rename_i hc
    simpa using hc
  · split at h
    · cases h
    · exact absurd h (chunkRx_ne cfg _ _ _)

theorem receive_accum (cfg : Cfg) (r : RR) (buf : Bytes) (hv : r.request.valid = true)
    (hm : r.request.missingHost = false) (hc : r.request.headers.isChunked = false)
    (hcl : r.request.headers.contentLength > 0) (hR : ¬ Rejects cfg r buf) :
    RR.receive cfg r buf = accum cfg r buf := by
  rw [receive_valid cfg r buf hv, afterHead_body cfg r false buf hm hc,
    receiveBody_accum cfg r false buf hR (fun h => Bool.noConfusion h.1), pre_of_pos hR hcl]

theorem receive_chunk (cfg : Cfg) (r : RR) (buf : Bytes) (hv : r.request.valid = true)
    (hm : r.request.missingHost = false) (hc : r.request.headers.isChunked = true) (hk : r.chunk.valid = false) :
    RR.receive cfg r buf = chunkParse cfg r buf := by
  rw [receive_valid cfg r buf hv, afterHead_chunk cfg r false buf hm hc, receiveChunk_eq, reset_of_not_valid r hk]
  rfl

def clears (cfg : Cfg) (s : RR) : Rx → Bool
  | .invalid => true
  | .valid => !s.request.headers.isChunked || cfg.concatChunks
  | .chunk => s.chunk.isLast
  | _ => false

theorem afterResult_eq (cfg : Cfg) (s : RR) (x : Rx) :
    RR.afterResult cfg s x =
      if clears cfg s x = true then s.clear else if x = .expectContinue then { s with continueSent := true } else s := by
  cases x <;> rfl

def rcv (cfg : Cfg) : Rcv RR := { receive := RR.receive cfg, after := RR.afterResult cfg }

theorem readLoop_eq (cfg : Cfg) (fuel : Nat) : ∀ (r : RR) (buf : Bytes) (acc : List Delivery),
    RR.readLoop cfg fuel r buf acc = (rcv cfg).readLoop Delivery.mk fuel r buf acc := by
  induction fuel with
  | zero => intro r buf acc; rfl
  | succ n ih => intro r buf acc; simp only [RR.readLoop, Rcv.readLoop, ih]; rfl

end RR

end Via
