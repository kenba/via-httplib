import ViaProofs.ConnLemmas
import ViaProofs.C09
/-
  C19 — over TLS: same guarantees, orderly close_notify, server survives every close.

  The adaptor flavour is a parameter of the model (`Opts.flavour`), not a second model: every theorem about the
  connection layer (C03, C09, C10, C11, C14) is stated for all worlds and therefore holds for the ssl flavour
  (asynchronous handshake; `shutdown` = cancel pending operations + asynchronous close_notify).  Specific to it:
  * `C19_invariant`            the lifecycle / retention invariant after every history with `flavour=ssl`;
  * `C19_close_notify_after_write`  the library issues the TLS shutdown (close_notify) for a finished response only
                               from the completion of that response's write (C09) — never while it is in flight;
  * `C19_shutdown_keeps_socket_open` in the ssl flavour `shutdown` does not close the socket: close follows only
                               after the shutdown completion has been handled (close_notify precedes close).
  OpenSSL / asio behaviour is modelled by the adaptor contract, not verified; the thorough tier validates it on
  real TLS loopback connections (clean close_notify vs truncation).
-/
namespace Via
open Sim

theorem C19_invariant (rest : List String) (history : List (List String)) :
    Inv (history.foldl simOp (mkServer ("flavour=ssl" :: rest))) ∧
    Settled (history.foldl simOp (mkServer ("flavour=ssl" :: rest))) :=
  history_inv _ history

theorem C19_close_notify_after_write (fuel : Nat) (w : World) (i : Nat) (h : (w.get i).transmitting = true) :
    disconnectConn (fuel + 1) w i = w.upd i fun c => { c with disconnectPending := true } :=
  C09_no_shutdown_while_writing fuel w i h

/-- TRACE LEVEL, TLS flavour: after every history a stored (asynchronous) shutdown completion belongs to a connection
    whose `shutdown_sent_` is set — so its completion only signals DISCONNECTED, it can never be mistaken for the
    completion of a response write — and a connection that is not transmitting has no write in flight, so the
    close_notify requested by `disconnect()` is never issued over a response still being written. -/
theorem C19_close_notify_ordering (rest : List String) (history : List (List String)) (i : Nat) :
    let w := history.foldl simOp (mkServer ("flavour=ssl" :: rest))
    ((w.get i).shutStored = true → (w.get i).shutdownSent = true) ∧
    ((w.get i).transmitting = false → (w.get i).writes = []) :=
  ⟨(winv_get (history_winv _ history) i).2.2, (C09_no_truncation _ history i).2⟩

theorem C19_shutdown_keeps_socket_open (fuel : Nat) (w : World) (i : Nat) (hf : w.opts.flavour = .ssl)
    (hi : i < w.conns.length) :
    ((shutdownConn (fuel + 1) w i).get i).sockOpen = (w.get i).sockOpen ∧
    ((shutdownConn (fuel + 1) w i).get i).shutStored = true ∧
    ((shutdownConn (fuel + 1) w i).get i).shutdownSent = true := by
  simp [shutdownConn, hf, aux_get_upd_self, hi, dropPendingIo]

end Via
