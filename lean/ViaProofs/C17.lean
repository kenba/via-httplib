import ViaProofs.Statements
import ViaProofs.Lemmas.Basic
/-
  C17 — protected routes need valid credentials, and any Authorization value is safe.

  The base64 round trip is stated on groups: `encGroups` maps three bytes to four sextets (`sextets`, `encGroups_eq`),
  `decGroups` maps four sextets back (`decGroups_group`), and the padding (`=` decodes as the sextet 0, the surplus
  bytes are erased) is `decGroups_sextets`; the alphabet is two 64-entry tables (`b64Val_char`, `b64Char_props`).
  `basicIsValid_iff` is the decision chain of `basic::is_valid` in closed form: `C17_guard` is one direction,
  `C17_accepts` the other on an encoded pair, through the round trip.
-/
namespace Via
open Auth

theorem b64Val_char : ∀ n : Fin 64, b64Val (b64Char n.val) = some n.val := by decide

theorem b64Char_props : ∀ n : Fin 64, isSpace (b64Char n.val) = false ∧ b64Char n.val ≠ 61 := by decide

def sextets : Bytes → List Nat
  | [] => []
  | [a] => [a.toNat / 4, a.toNat % 4 * 16]
  | [a, b] => [a.toNat / 4, a.toNat % 4 * 16 + b.toNat / 16, b.toNat % 16 * 4]
  | a :: b :: c :: rest =>
    a.toNat / 4 :: (a.toNat % 4 * 16 + b.toNat / 16) :: (b.toNat % 16 * 4 + c.toNat / 64) :: (c.toNat % 64) :: sextets rest

theorem encGroups_eq (x : Bytes) : encGroups x = (sextets x).map b64Char := by
  fun_induction encGroups x <;> simp [sextets, *]

/-- a sextet that straddles two bytes is a two-digit number `h * q + l` with `l < q` -/
theorem mul_add_lt {h l p q : Nat} (hh : h < p) (hl : l < q) : h * q + l < p * q :=
  Nat.lt_of_lt_of_le (Nat.add_lt_add_left hl _) (Nat.succ_mul h q ▸ Nat.mul_le_mul_right q hh)

theorem mul_add_div_of_lt {h l q : Nat} (hl : l < q) : (h * q + l) / q = h := by
  rw [Nat.mul_comm, Nat.mul_add_div (Nat.zero_lt_of_lt hl), Nat.div_eq_of_lt hl, Nat.add_zero]

theorem group_lt (a b c : Byte) :
    a.toNat / 4 < 64 ∧ a.toNat % 4 * 16 + b.toNat / 16 < 64 ∧ b.toNat % 16 * 4 + c.toNat / 64 < 64 ∧
      c.toNat % 64 < 64 :=
  ⟨Nat.div_lt_of_lt_mul a.toNat_lt,
    mul_add_lt (p := 4) (Nat.mod_lt _ (by decide)) (Nat.div_lt_of_lt_mul b.toNat_lt),
    mul_add_lt (p := 16) (Nat.mod_lt _ (by decide)) (Nat.div_lt_of_lt_mul c.toNat_lt), Nat.mod_lt _ (by decide)⟩

theorem sextets_lt (x : Bytes) : ∀ n ∈ sextets x, n < 64 := by
  fun_induction sextets x with
  | case1 => simp
  | case2 a => simpa using group_lt a 0 0
  | case3 a b => simpa using group_lt a b 0
  | case4 a b c rest ih =>
    obtain ⟨h1, h2, h3, h4⟩ := group_lt a b c
    simpa [h1, h2, h3, h4] using ih

/-- the number of `=` the encoder appends -/
def padOf (x : Bytes) : Nat := (3 - x.length % 3) % 3

theorem padOf_cons3 (a b c : Byte) (rest : Bytes) : padOf (a :: b :: c :: rest) = padOf rest := by
  show (3 - (rest.length + 3) % 3) % 3 = _
  rw [Nat.add_mod_right]; rfl

theorem decGroups_group (a b c : Byte) (rest : List Nat) :
    decGroups (a.toNat / 4 :: (a.toNat % 4 * 16 + b.toNat / 16) :: (b.toNat % 16 * 4 + c.toNat / 64) ::
      (c.toNat % 64) :: rest) = a :: b :: c :: decGroups rest := by
  have hb : b.toNat / 16 < 16 := Nat.div_lt_of_lt_mul b.toNat_lt
  have hc : c.toNat / 64 < 4 := Nat.div_lt_of_lt_mul c.toNat_lt
  rw [decGroups, mul_add_div_of_lt hb, Nat.mul_add_mod_of_lt hb, mul_add_div_of_lt hc, Nat.mul_add_mod_of_lt hc,
    Nat.div_add_mod', Nat.div_add_mod', Nat.div_add_mod']
  simp

theorem decGroups_sextets (x : Bytes) :
    decGroups (sextets x ++ List.replicate (padOf x) 0) = x ++ List.replicate (padOf x) 0 := by
  fun_induction sextets x with
  | case1 => rfl
  | case2 a => exact decGroups_group a 0 0 []
  | case3 a b => exact decGroups_group a b 0 []
  | case4 a b c rest ih => rw [padOf_cons3]; simp only [List.cons_append, decGroups_group, ih]

theorem length_sextets (x : Bytes) : ((sextets x).length + padOf x) % 4 = 0 := by
  fun_induction sextets x with
  | case1 => rfl
  | case2 a => simp [padOf]
  | case3 a b => simp [padOf]
  | case4 a b c rest ih =>
    show ((sextets rest).length + 4 + padOf (a :: b :: c :: rest)) % 4 = 0
    rw [padOf_cons3, Nat.add_right_comm, Nat.add_mod_right, ih]

theorem filter_insertBreaks (s : Bytes) : ∀ n, (∀ c ∈ s, isSpace c = false) →
    (insertBreaks n s).filter (fun c => !isSpace c) = s := by
  induction s with
  | nil => intro n _; simp [insertBreaks]
  | cons c cs ih =>
    intro n h
    have hc : isSpace c = false := h c (by simp)
    have hcs : ∀ d ∈ cs, isSpace d = false := fun d hd => h d (by simp [hd])
    unfold insertBreaks
    split
    · have h10 : isSpace 10 = true := by decide
      simp [h10, hc, ih 1 hcs]
    · simp [hc, ih (n + 1) hcs]

theorem mapOpt_map {α β} (f : β → Option α) (g : α → β) (l : List α) (h : ∀ a ∈ l, f (g a) = some a) :
    mapOpt f (l.map g) = some l := by
  induction l with
  | nil => rfl
  | cons a l ih => simp [mapOpt, h a (by simp), ih fun b hb => h b (by simp [hb])]

theorem decode_eq {x s : Bytes} {vals : List Nat} (hs : x.filter (fun c => !isSpace c) = s) (hlen : s.length % 4 = 0)
    (hv : mapOpt b64Val (s.map fun c => if c == 61 then 65 else c) = some vals) :
    decode x = if s.count 61 > (decGroups vals).length then []
      else (decGroups vals).take ((decGroups vals).length - s.count 61) := by
  unfold decode
  simp only [hs, hlen, Nat.sub_zero, Nat.mod_self, List.replicate_zero, List.append_nil, hv]

theorem b64_roundtrip : b64_roundtrip_statement := by
  intro x
  have hchar : ∀ c ∈ encGroups x, isSpace c = false ∧ c ≠ 61 := by
    rw [encGroups_eq]; intro c hc
    obtain ⟨n, hn, rfl⟩ := List.mem_map.1 hc
    exact b64Char_props ⟨n, sextets_lt x n hn⟩
  have hfilt : (encode x).filter (fun c => !isSpace c) = encGroups x ++ List.replicate (padOf x) 61 := by
    rw [encode, List.filter_append, filter_insertBreaks _ 0 fun c hc => (hchar c hc).1, List.filter_replicate]
    rfl
  have hlen : (encGroups x ++ List.replicate (padOf x) 61).length % 4 = 0 := by
    rw [List.length_append, List.length_replicate, encGroups_eq, List.length_map]; exact length_sextets x
  have hcnt : (encGroups x ++ List.replicate (padOf x) 61).count 61 = padOf x := by
    rw [List.count_append, List.count_eq_zero.2 fun h => (hchar 61 h).2 rfl, List.count_replicate]; simp
  -- `=` becomes `A`, the character of 0: the characters are those of `sextets x ++ zeros`
  have hval : mapOpt b64Val ((encGroups x ++ List.replicate (padOf x) 61).map fun c => if c == 61 then 65 else c)
      = some (sextets x ++ List.replicate (padOf x) 0) := by
    rw [List.map_append, List.map_replicate, List.map_congr_left (g := id) fun c hc => by simp [(hchar c hc).2],
      List.map_id, encGroups_eq, show (if (61 : Byte) == 61 then 65 else 61) = b64Char 0 from rfl,
      ← List.map_replicate, ← List.map_append]
    refine mapOpt_map _ _ _ fun n hn => b64Val_char ⟨n, ?_⟩
    rcases List.mem_append.1 hn with h | h
    · exact sextets_lt x n h
    · rw [List.eq_of_mem_replicate h]; decide
  rw [decode_eq hfilt hlen hval, hcnt, decGroups_sextets, List.length_append, List.length_replicate,
    if_neg (Nat.not_lt.2 (Nat.le_add_left _ _)), Nat.add_sub_cancel, List.take_left' rfl]

theorem basicIsValid_iff (table : Table) (hdr : Option Bytes) :
    basicIsValid table hdr = true ↔
      ∃ a p u pw, hdr = some a ∧ findSub (b!"Basic") a 0 = some p ∧ p + 6 ≤ a.length ∧
        decode (a.drop (p + 6)) = u ++ [58] ++ pw ∧ 58 ∉ u ∧ tableFind u table = some pw := by
  constructor
  · intro h
    unfold basicIsValid at h
    split at h
    · cases h
    · rename_i a
      split at h
      · cases h
      · rename_i p hp
        simp only at h
        split at h
        · cases h
        · rename_i hle
          split at h
          · cases h
          · rename_i ue hue
            split at h
            · cases h
            · rename_i pw hpw
              have hpw' : (decode (a.drop (p + 6))).drop (ue + 1) = pw := by simpa using h
              obtain ⟨hs1, hs2⟩ := findByte_spec 58 _ ue hue
              refine ⟨a, p, (decode (a.drop (p + 6))).take ue, pw, rfl, hp, by omega, ?_, hs2, hpw⟩
              rw [← hpw']; exact hs1
  · rintro ⟨a, p, u, pw, rfl, hp, hle, hd, hu, ht⟩
    have hfb : findByte 58 (u ++ [58] ++ pw) = some u.length := by
      rw [List.append_assoc]; exact findByte_append 58 u pw hu
    unfold basicIsValid
    simp only [hp, if_neg (Nat.not_lt.2 hle), hd, hfb]
    rw [List.append_assoc, List.take_left' rfl, ht]
    simp

theorem C17_guard : C17_guard_statement := fun table hdr => (basicIsValid_iff table hdr).1

theorem C17_challenge : C17_challenge_statement := by
  intro table realm hdr h
  refine ⟨by simp [authenticate, h], ?_, ?_⟩
  · unfold authenticateValue; split <;> simp
  · intro hr; unfold authenticateValue; simp [hr]

theorem findSub_prefix (pat s : Bytes) (i : Nat) (h : pat.isPrefixOf s = true) : findSub pat s i = some i := by
  cases s with
  | nil => cases pat <;> simp_all [findSub]
  | cons c cs => simp [findSub, h]

theorem C17_accepts : C17_accepts_statement := fun table u pw hu hpw =>
  (basicIsValid_iff table _).2
    ⟨_, 0, u, pw, rfl, findSub_prefix _ _ 0 rfl, by simp, b64_roundtrip (u ++ [58] ++ pw), hu, hpw⟩

/-- non-vacuity: a registered pair with an empty password and one with ':' in the password -/
example : tableFind (b!"u") [((b!"u"), []), ((b!"v"), (b!"a:b"))] = some [] ∧ (58 : Byte) ∉ (b!"u") := by decide

example : basicIsValid [((b!"v"), (b!"a:b"))] (some (b!"Basic djphOmI=")) = true := by decide

/-- the values on which the unrepaired code throws / corrupts memory are plain rejections -/
example : basicIsValid [((b!"v"), (b!"a:b"))] (some (b!"Basic")) = false ∧
          basicIsValid [((b!"v"), (b!"a:b"))] (some (b!"Basic =")) = false := by decide

end Via
