import ViaProofs.Statements
import ViaProofs.Lemmas.Basic
/-
  C16 — the router dispatches by method and path pattern as documented: `handleRequest` (the model of
  `request_router::handle_request`) = `specHandle` (Statements.lean) on the target up to its first '?' or '#', for every
  table of `WfPattern` routes, every method and target.

  Per route, the implementation's matcher (`implMatch`: prefix test on `search_path`, then `get_route_parameters`) is the
  specification's (`specRoute`: segment lists of equal length, literal segments equal): the pattern is cut at its first
  ':' into a literal prefix `pre/` and the rest (`wf_colon`), the prefix test skips the literal segments
  (`specSegs_split_prefix`), and the binding loop is the segment matcher (`bind_eq`).  `WfPattern` (every ':' directly
  follows a '/') is what makes the cut fall on a segment boundary: for the route `/a:b` and the target `/axx` the
  implementation binds `b = xx` where the specification finds no match.  An empty binding list means "no match" to the
  C++; it cannot arise from a match because the first name after the cut is a parameter (`specSegs_param_ne_nil`).
-/
namespace Via
open Router

theorem splitAux_sep (d : Byte) (a b : Bytes) : ∀ cur,
    splitAux d (a ++ d :: b) cur = splitAux d a cur ++ split b d := by
  induction a with
  | nil => intro cur; simp [splitAux, split]
  | cons c cs ih =>
    intro cur
    simp only [List.cons_append, splitAux]
    split
    · rw [ih]; simp
    · rw [ih]

theorem split_sep (d : Byte) (a b : Bytes) : split (a ++ d :: b) d = split a d ++ split b d :=
  splitAux_sep d a b []

theorem splitAux_ne_nil (d : Byte) (s : Bytes) : ∀ cur, splitAux d s cur ≠ [] := by
  induction s with
  | nil => intro cur; simp [splitAux]
  | cons c cs ih => intro cur; simp only [splitAux]; split <;> simp [ih]

theorem split_ne_nil (d : Byte) (s : Bytes) : split s d ≠ [] := splitAux_ne_nil d s []

theorem joinWith_cons {sep x : Bytes} {rest : List Bytes} (h : rest ≠ []) :
    joinWith sep (x :: rest) = x ++ sep ++ joinWith sep rest := by
  cases rest with
  | nil => exact absurd rfl h
  | cons y ys => simp [joinWith]

theorem joinAux_split (d : Byte) (s : Bytes) : ∀ cur,
    joinWith [d] (splitAux d s cur) = cur.reverse ++ s := by
  induction s with
  | nil => intro cur; simp [splitAux, joinWith]
  | cons c cs ih =>
    intro cur
    simp only [splitAux]
    split
    · rename_i h
      have : c = d := by simpa using h
      subst this
      rw [joinWith_cons (splitAux_ne_nil c cs []), ih]; simp
    · rw [ih]; simp

theorem join_split (d : Byte) (s : Bytes) : joinWith [d] (split s d) = s := by
  simpa [split] using joinAux_split d s []

theorem split_injective (d : Byte) (a b : Bytes) (h : split a d = split b d) : a = b := by
  rw [← join_split d a, ← join_split d b, h]

theorem joinWith_append {sep : Bytes} {A B : List Bytes} (hA : A ≠ []) (hB : B ≠ []) :
    joinWith sep (A ++ B) = joinWith sep A ++ sep ++ joinWith sep B := by
  induction A with
  | nil => exact absurd rfl hA
  | cons x xs ih =>
    by_cases hx : xs = []
    · subst hx; simp [joinWith_cons hB, joinWith]
    · rw [List.cons_append, joinWith_cons (rest := xs ++ B) (by simp [hx]), ih hx, joinWith_cons hx]
      simp

theorem subset_joinWith (sep : Bytes) {L : List Bytes} {p : Bytes} (hp : p ∈ L) : p ⊆ joinWith sep L := by
  induction L with
  | nil => cases hp
  | cons x xs ih =>
    by_cases hx : xs = []
    · subst hx; rw [List.mem_singleton.1 hp]; exact fun _ h => h
    · rw [joinWith_cons hx]
      rcases List.mem_cons.1 hp with rfl | hp
      · exact fun c hc => by simp [hc]
      · exact fun c hc => by simp [ih hp hc]

theorem mem_split (d : Byte) (s piece : Bytes) (h : piece ∈ split s d) : ∀ c ∈ piece, c ∈ s :=
  fun _ hc => join_split d s ▸ subset_joinWith [d] h hc

theorem split_no_sep (d : Byte) (s : Bytes) (h : d ∉ s) : split s d = [s] := by
  have hj := join_split d s
  cases hs : split s d with
  | nil => exact absurd hs (split_ne_nil d s)
  | cons p ps =>
    rw [hs] at hj
    cases ps with
    | nil => rw [show p = s from hj]
    | cons q qs =>
      rw [joinWith_cons (List.cons_ne_nil q qs)] at hj
      exact absurd (by rw [← hj]; simp) h

theorem split_head (d c : Byte) (s : Bytes) (hc : c ≠ d) :
    ∃ n0 N, split (c :: s) d = n0 :: N ∧ n0.head? = some c := by
  have hj := join_split d (c :: s)
  cases hs : split (c :: s) d with
  | nil => exact absurd hs (split_ne_nil d _)
  | cons n0 N =>
    refine ⟨n0, N, rfl, ?_⟩
    rw [hs] at hj
    cases N with
    | nil => rw [show n0 = c :: s from hj]; rfl
    | cons n1 N' =>
      rw [joinWith_cons (List.cons_ne_nil n1 N')] at hj
      cases n0 with
      | nil => exact absurd (List.head_eq_of_cons_eq hj).symm hc
      | cons x xs => rw [List.head_eq_of_cons_eq hj]; rfl

def Literal (R : List Bytes) : Prop := ∀ s ∈ R, s.head? ≠ some 58

theorem specSegs_literal_append (S : List Bytes) (hS : Literal S) (N : List Bytes) :
    ∀ (P : List Bytes) (acc : Params),
      specSegs (S ++ N) P acc = if S.isPrefixOf P then specSegs N (P.drop S.length) acc else none := by
  induction S with
  | nil => intro P acc; rfl
  | cons r rs ih =>
    intro P acc
    have hr : r.head? ≠ some 58 := hS r (by simp)
    cases P with
    | nil => rfl
    | cons p pt =>
      simp only [List.cons_append, specSegs, hr, ↓reduceIte, ih (fun s hs => hS s (by simp [hs])),
        List.isPrefixOf_cons_cons, List.length_cons, List.drop_succ_cons]
      by_cases e : r = p
      · rw [if_pos e, beq_iff_eq.2 e, Bool.true_and]
      · rw [if_neg e, beq_false_of_ne e, Bool.false_and]
        rfl

theorem specSegs_literal (R : List Bytes) (h : Literal R) (P : List Bytes) (acc : Params) :
    specSegs R P acc = if R = P then some acc else none := by
  have := specSegs_literal_append R h [] P acc
  rw [List.append_nil] at this
  rw [this]
  split
  · next hp =>
    obtain ⟨W, rfl⟩ := List.isPrefixOf_iff_prefix.1 hp
    rw [List.drop_left]
    cases W <;> simp [specSegs]
  · next hp => rw [if_neg fun (e : R = P) => hp (e ▸ List.isPrefixOf_iff_prefix.2 (List.prefix_refl R))]

theorem specSegs_length {N V : List Bytes} {acc ps : Params} (h : specSegs N V acc = some ps) :
    N.length = V.length := by
  fun_induction specSegs N V acc with
  | case1 => rfl
  | case2 _ _ _ _ _ _ ih => exact congrArg (· + 1) (ih h)
  | case3 _ _ _ _ _ ih => exact congrArg (· + 1) (ih h)
  | case4 => cases h
  | case5 => cases h

theorem bindLoop_eq_specSegs (N V : List Bytes) (acc : Params) (hl : N.length = V.length) :
    bindLoop N V acc = specSegs N V acc := by
  fun_induction specSegs N V acc with
  | case1 => rfl
  | case2 r rs p ps acc hr ih => simp only [bindLoop, hr, bne_self_eq_false, Bool.false_eq_true, ↓reduceIte]; exact ih (Nat.succ.inj hl)
  | case3 rs p ps acc hr ih => simp [bindLoop, hr, ih (Nat.succ.inj hl)]
  | case4 r rs p ps acc hr e => simp [bindLoop, hr, e]
  | case5 N V acc h1 h2 =>
    cases N <;> cases V
    · exact absurd rfl (h1 rfl)
    · cases hl
    · cases hl
    · exact absurd rfl (h2 _ _ _ _ rfl)

theorem mapInsert_ne_nil {V} (k : Bytes) (v : V) (l : List (Bytes × V)) : mapInsert k v l ≠ [] := by
  cases l with
  | nil => simp [mapInsert]
  | cons p r =>
    obtain ⟨k', v'⟩ := p
    simp only [mapInsert]
    split
    · simp
    · split <;> simp

theorem specSegs_ne_nil {N V : List Bytes} {acc ps : Params} (ha : acc ≠ []) (h : specSegs N V acc = some ps) : ps ≠ [] := by
  fun_induction specSegs N V acc with
  | case1 => cases h; exact ha
  | case2 _ _ _ _ _ _ ih => exact ih (mapInsert_ne_nil _ _ _) h
  | case3 _ _ _ _ _ ih => exact ih ha h
  | case4 => cases h
  | case5 => cases h

theorem specSegs_param_ne_nil {n0 : Bytes} {N V : List Bytes} {ps : Params} (hn0 : n0.head? = some 58)
    (h : specSegs (n0 :: N) V [] = some ps) : ps ≠ [] := by
  cases V with
  | nil => cases h
  | cons v vs =>
    simp only [specSegs, hn0, ↓reduceIte] at h
    exact specSegs_ne_nil (mapInsert_ne_nil _ _ _) h

/-- the decision `find_route` takes for one route -/
def implMatch (r : Route) (u : Bytes) : Option Params :=
  if r.searchPath.isPrefixOf u then
    if r.hasParameters then
      let ps := getRouteParameters u r.path
      if !ps.isEmpty then some ps else none
    else if u.length == r.searchPath.length then some [] else none
  else none

theorem findRoute_cons (u : Bytes) (r : Route) (rest : List Route) :
    findRoute u (r :: rest) = match implMatch r u with
      | some ps => some (r, ps)
      | none => findRoute u rest := by
  simp only [findRoute, implMatch]
  cases r.searchPath.isPrefixOf u
  · rfl
  · cases r.hasParameters
    · cases u.length == r.searchPath.length <;> rfl
    · cases !(getRouteParameters u r.path).isEmpty <;> rfl

theorem literal_of_not_mem (d : Byte) (s : Bytes) (h : 58 ∉ s) : Literal (split s d) := by
  intro piece hp hh
  cases piece with
  | nil => simp at hh
  | cons c cs =>
    simp at hh; subst hh
    exact h (mem_split d s _ hp 58 (by simp))

theorem split_of_prefix (d : Byte) (a u : Bytes) (h : a ++ [d] <+: u) :
    split u d = split a d ++ split (u.drop (a.length + 1)) d := by
  obtain ⟨x, rfl⟩ := h
  rw [List.append_assoc, List.singleton_append, split_sep]
  simp

theorem prefix_of_split (d : Byte) (a u : Bytes) (W : List Bytes) (hW : W ≠ []) (h : split u d = split a d ++ W) :
    a ++ [d] <+: u := by
  rw [← join_split d u, h, joinWith_append (split_ne_nil d a) hW, join_split]
  exact List.prefix_append _ _

theorem specSegs_split_prefix (d : Byte) (pre u : Bytes) (h58 : 58 ∉ pre) (N : List Bytes) (hN : N ≠ []) (acc : Params) :
    specSegs (split pre d ++ N) (split u d) acc =
      if (pre ++ [d]).isPrefixOf u then specSegs N (split (u.drop (pre.length + 1)) d) acc else none := by
  rw [specSegs_literal_append _ (literal_of_not_mem d pre h58)]
  by_cases hp : (pre ++ [d]).isPrefixOf u = true
  · rw [if_pos hp, split_of_prefix d pre u (List.isPrefixOf_iff_prefix.1 hp),
      if_pos (List.isPrefixOf_iff_prefix.2 (List.prefix_append _ _)), List.drop_left]
  · rw [if_neg hp]
    split
    · next hq =>
      obtain ⟨W, hW⟩ := List.isPrefixOf_iff_prefix.1 hq
      cases ho : specSegs N ((split u d).drop (split pre d).length) acc with
      | none => rfl
      | some ps =>
        rw [← hW, List.drop_left] at ho
        have hWne : W ≠ [] := fun e =>
          hN (List.eq_nil_of_length_eq_zero ((specSegs_length ho).trans (e ▸ rfl)))
        exact absurd (List.isPrefixOf_iff_prefix.2 (prefix_of_split d pre u W hWne hW.symm)) hp
    · rfl

theorem bind_eq (N V : List Bytes) :
    (if N.length == V.length then (bindLoop N V []).getD [] else []) = (specSegs N V []).getD [] := by
  by_cases hl : N.length = V.length
  · simp [hl, bindLoop_eq_specSegs _ _ _ hl]
  · cases ho : specSegs N V [] with
    | none => simp [hl]
    | some ps => exact absurd (specSegs_length ho) hl

theorem wf_colon {path : Bytes} (hw : WfPattern path) {p : Nat} (hf : findByte 58 path = some p) :
    ∃ pre rest, path = pre ++ 47 :: 58 :: rest ∧ 58 ∉ pre ∧ p = pre.length + 1 := by
  obtain ⟨hp, e58, hnot⟩ := findByte_some hf
  obtain ⟨hp0, hslash⟩ := hw p (by rw [List.getElem?_eq_getElem hp, e58])
  obtain ⟨q, rfl⟩ : ∃ q, p = q + 1 := ⟨p - 1, by omega⟩
  have hq : q < path.length := by omega
  have e47 : path[q] = 47 := by rw [Nat.add_sub_cancel, List.getElem?_eq_getElem hq] at hslash; exact Option.some.inj hslash
  refine ⟨path.take q, path.drop (q + 2), ?_, fun h => hnot ((List.take_prefix_take_left (Nat.le_succ q)).subset h), ?_⟩
  · rw [← e47, ← e58, ← List.drop_eq_getElem_cons hp, ← List.drop_eq_getElem_cons hq, List.take_append_drop]
  · rw [List.length_take, Nat.min_eq_left (Nat.le_of_lt hq)]

theorem implMatch_eq_spec (r : Route) (hw : WfPattern r.path) (u : Bytes) :
    implMatch r u = specRoute r u := by
  unfold implMatch specRoute Route.hasParameters Route.searchPath getRouteParameters
  cases hf : findByte 58 r.path with
  | none =>
    simp only [bne_self_eq_false, Bool.false_eq_true, ↓reduceIte]
    rw [specSegs_literal _ (literal_of_not_mem 47 r.path (findByte_none 58 r.path hf))]
    by_cases e : r.path = u
    · subst e; simp
    · have hs : split r.path 47 ≠ split u 47 := fun h => e (split_injective 47 _ _ h)
      simp only [hs, ↓reduceIte]
      split
      · next hp =>
        split
        · next hl =>
          have hl' : u.length = r.path.length := by simpa using hl
          exact absurd ((List.isPrefixOf_iff_prefix.1 hp).eq_of_length hl'.symm) e
        · rfl
      · rfl
  | some p =>
    obtain ⟨pre, rest, hpath, h58, rfl⟩ := wf_colon hw hf
    have hpath' : r.path = (pre ++ [47]) ++ 58 :: rest := by rw [hpath]; simp
    have e1 : r.path.take (pre.length + 1) = pre ++ [47] := by rw [hpath']; exact List.take_left' (by simp)
    have e2 : r.path.drop (pre.length + 1) = 58 :: rest := by rw [hpath']; exact List.drop_left' (by simp)
    have e3 : (r.path.length != (pre ++ [47]).length) = true := by rw [hpath']; simp
    simp only [e1, e2, e3, bind_eq, ↓reduceIte]
    rw [hpath, split_sep, specSegs_split_prefix 47 pre u h58 _ (split_ne_nil _ _)]
    split
    · -- the first name is a parameter, so a match binds something
      cases ho : specSegs (split (58 :: rest) 47) (split (u.drop (pre.length + 1)) 47) [] with
      | none => rfl
      | some ps =>
        obtain ⟨n0, N', hN, hn0⟩ := split_head 47 58 rest (by decide)
        rw [hN] at ho
        cases ps with
        | nil => exact absurd rfl (specSegs_param_ne_nil hn0 ho)
        | cons q qs => rfl
    · rfl

theorem findRoute_eq_spec (u : Bytes) (routes : List Route) (hw : ∀ r ∈ routes, WfPattern r.path) :
    findRoute u routes = specFind u routes := by
  induction routes with
  | nil => rfl
  | cons r rest ih =>
    rw [findRoute_cons]
    simp only [specFind]
    rw [implMatch_eq_spec r (hw r (by simp)) u, ih (fun r' h => hw r' (by simp [h]))]
    cases specRoute r u <;> rfl

theorem cstr_of_no_nul (t : Bytes) (h : 0 ∉ t) : cstr t = t := by
  have := List.takeWhile_append_of_pos (p := (· != 0)) (l₁ := t) (l₂ := [])
    (fun a ha => by simpa using fun (e : a = 0) => h (e ▸ ha))
  simpa [cstr] using this

theorem findByte_getD (b : Byte) (s : Bytes) : (findByte b s).getD s.length = s.findIdx (· == b) := by
  unfold findByte
  simp only []
  split
  · rfl
  · next h => exact Nat.le_antisymm (Nat.le_of_not_lt h) List.findIdx_le_length

theorem parseUri_path (t : Bytes) : (parseUri t).path = stripQueryFragment t := by
  have key : stripQueryFragment t = t.take (min ((findByte 63 t).getD t.length) ((findByte 35 t).getD t.length)) := by
    rw [stripQueryFragment, List.takeWhile_eq_take_findIdx_not, findByte_getD, findByte_getD, List.min_findIdx_findIdx]
    congr; funext c; simp [bne]
  rw [key]
  unfold parseUri
  simp only
  cases hq : findByte 63 t with
  | none =>
    cases hfr : findByte 35 t with
    | none => simp
    | some f => simp [Nat.min_eq_right (Nat.le_of_lt (findByte_lt hfr))]
  | some q =>
    have hql := Nat.le_of_lt (findByte_lt hq)
    cases hfr : findByte 35 t with
    | none => simp [Nat.min_eq_left hql]
    | some f =>
      by_cases hqf : q < f
      · simp [hqf, Nat.min_eq_left (Nat.le_of_lt hqf)]
      · simp [hqf, Nat.min_eq_right (Nat.le_of_not_lt hqf)]

theorem C16 : C16_statement := by
  intro routes authOk method target hw
  unfold handleRequest specHandle
  rw [parseUri_path target, findRoute_eq_spec _ routes hw]
  cases specFind (stripQueryFragment target) routes with
  | none => rfl
  | some rp =>
    obtain ⟨r, ps⟩ := rp
    simp only [Route.allowedMethods]
    rfl

/-- the router invokes at most one handler and never throws: `handleRequest` is a total function
    returning a single outcome; the out-of-range `substr` in `get_route_parameters` is unreachable
    because the route prefix has been matched at the start of the path -/
theorem C16_no_throw (r : Route) (u : Bytes) (p : Nat) (hf : findByte 58 r.path = some p)
    (hm : r.searchPath.isPrefixOf u = true) : p ≤ u.length := by
  unfold Route.searchPath at hm
  rw [hf] at hm
  have hl := (List.isPrefixOf_iff_prefix.1 hm).length_le
  rw [List.length_take, Nat.min_eq_left (Nat.le_of_lt (findByte_lt hf))] at hl
  exact hl

/-- non-vacuity: the documented example pattern dispatches as documented -/
example : handleRequest [{ path := (b!"/hello/:name"), methods := [((b!"GET"), { handler := 7, auth := none })] }]
    (fun _ => true) (b!"GET") (b!"/hello/world?x=1") = .handler 7 [((b!"name"), (b!"world"))] := by decide

end Via
