import ViaProofs.Frag.Lines
import ViaProofs.Frag.Headers
import ViaProofs.Frag.Crlf
/-
  The laws for the composite parsers `rx_request`, `rx_response`, `rx_chunk`: each is `Cmp.seq2` of a line parser
  and a second phase: `message_headers::parse` (`Cmp.hdrs`) for the two heads and for the trailers of a last chunk, the
  data and its line end (`CK.parseData`) for any other chunk.
-/
namespace Via

namespace Cmp

theorem MH_commit_valid (cfg : Cfg) (h : MH) (f : FL) : (MH.commit cfg h f).1.valid = h.valid := by
  rw [MH.commit_fst]

section
variable {S : Type} {get : S → MH} {set : S → MH → S} {mark : S → S} {valid : S → Bool} (skip : Bool) (cfg : Cfg)

theorem hdrs_laws (hgs : ∀ s h, get (set s h) = h) (hss : ∀ s h h', set (set s h) h' = set s h')
    (hv : ∀ s h, valid (set s h) = valid s) (hm : ∀ s, valid (mark s) = true) :
    Laws (hdrs get set mark skip cfg) valid (fun s => (get s).fail) where
  suffix s buf := hdrs_ind skip cfg (fun p => ∃ pre, buf = pre ++ p.2.1) s buf (fun _ => ⟨[], rfl⟩)
    (fun _ => MH.parse_suffix cfg (get s) buf) (fun _ => MH.parse_suffix cfg (get s) buf)
  flag s a hs := hdrs_ind skip cfg (fun p => valid p.1 = p.2.2) s a (fun _ => hm s) (fun _ => (hv s _).trans hs)
    (fun _ => hm _)
  seq := by
    intro s a b hs hf
    by_cases hk : (skip && (get s).valid) = true
    · simp [hdrs, hk]
    · have e : ∀ x, hdrs get set mark skip cfg s x =
          (let r := MH.parse cfg (get s) x
           if !r.2.2 then (set s r.1, r.2.1, false) else (mark (set s r.1), r.2.1, true)) :=
        fun x => by simp only [hdrs, hk, Bool.false_eq_true, if_false]
      have hval := MH.parse_flag cfg (get s) a
      rw [e, e, MH.parse_frag cfg (get s) a b hf]
      generalize MH.parse cfg (get s) a = r at hval
      obtain ⟨r1, rr, rb⟩ := r
      dsimp only at hval ⊢
      cases rb with
      | true => simp
      | false =>
        simp only [Bool.false_or, Bool.not_false, if_true, hgs]
        split
        · rfl
        · have hk' : (skip && r1.valid) = false := by
            rw [hval, Bool.or_false]; simpa using hk
          simp only [hdrs, hgs, hk', Bool.false_eq_true, if_false, hss]

theorem hdrs_true_lt (s : S) (buf : Bytes) (hk : skip = true → (get s).valid = false)
    (ht : (hdrs get set mark skip cfg s buf).2.2 = true) :
    (hdrs get set mark skip cfg s buf).2.1.length < buf.length := by
  revert ht
  refine hdrs_ind skip cfg (fun p => p.2.2 = true → p.2.1.length < buf.length) s buf (fun h => ?_) (fun _ => nofun)
    (fun hr _ => MH.parse_true_lt cfg _ _ hr)
  rw [Bool.and_eq_true] at h
  rw [hk h.1] at h
  exact absurd h.2 nofun

end

theorem head_flags {S L : Type} {get : S → L} {set : S → L → S} {lvalid : L → Bool}
    {P1 : L → Bytes → L × Bytes × Bool} {hget : S → MH} {hset : S → MH → S} {mark : S → S}
    (cfg : Cfg) (hhs : ∀ s l, hget (set s l) = hget s) (hhh : ∀ s h, hget (hset s h) = h)
    (hhm : ∀ s, hget (mark s) = hget s) (s : S) (buf : Bytes) :
    (hget (seq2 get set lvalid P1 (hdrs hget hset mark true cfg) s buf).1).valid =
      ((hget s).valid || (seq2 get set lvalid P1 (hdrs hget hset mark true cfg) s buf).2.2) := by
  refine seq2_ind get set lvalid P1 _ (fun t => hget t = hget s)
    (fun p => (hget p.1).valid = ((hget s).valid || p.2.2)) (fun t buf ht => ?_) (fun t buf ht => ?_) s buf rfl
  · split
    · exact (hhs t _).trans ht
    · rw [hhs, ht, Bool.or_false]
  · rw [← ht]
    refine hdrs_ind true cfg (fun p => (hget p.1).valid = ((hget t).valid || p.2.2)) t buf (fun h => ?_)
      (fun hr => ?_) (fun hr => ?_)
    · rw [hhm, Bool.or_true]; exact h
    · rw [hhh, MH.parse_flag, hr]
    · rw [hhm, hhh, MH.parse_flag, hr]

abbrev CK.eol : Eol CK := ⟨CK.dataCr, fun k => { k with dataCr := true }, fun k => { k with valid := true }⟩

/-- also for a read that ends within the data: `take` is then all of it, and the line end of no bytes is no step -/
theorem CK_parseData_eq (cfg : Cfg) (k : CK) (buf : Bytes) :
    CK.parseData cfg k buf =
      CK.eol.crlf cfg.strict { k with data := k.data ++ buf.take (k.hdr.size - k.data.length) }
        (buf.drop (k.hdr.size - k.data.length)) := by
  by_cases h : buf.length > k.hdr.size - k.data.length
  · rw [CK.parseData, if_pos h]
    generalize buf.drop (k.hdr.size - k.data.length) = rest
    cases rest with
    | nil => rfl
    | cons c cs =>
      dsimp only [Eol.crlf]
      cases (!k.dataCr && c == 13)
      · cases (cfg.strict && !k.dataCr) <;> rfl
      · cases cs <;> rfl
  · rw [CK.parseData, if_neg h, List.take_of_length_le (Nat.le_of_not_lt h),
      List.drop_eq_nil_of_le (Nat.le_of_not_lt h)]
    rfl

theorem CK_parseData_facts (cfg : Cfg) (k : CK) (buf : Bytes) :
    (CK.parseData cfg k buf).1.hdr = k.hdr ∧ (CK.parseData cfg k buf).1.trailers = k.trailers ∧
    (CK.parseData cfg k buf).1.data = k.data ++ buf.take (k.hdr.size - k.data.length) := by
  rw [CK_parseData_eq]
  have := CK.eol.crlf_frame cfg.strict (fun k => (k.hdr, k.trailers, k.data)) (fun _ => rfl) (fun _ => rfl)
    { k with data := k.data ++ buf.take (k.hdr.size - k.data.length) } (buf.drop (k.hdr.size - k.data.length))
  simpa only [Prod.mk.injEq] using this

theorem CK_parseData_flag (cfg : Cfg) (k : CK) (x : Bytes) :
    (CK.parseData cfg k x).1.valid = (k.valid || (CK.parseData cfg k x).2.2) := by
  rw [CK_parseData_eq]
  exact CK.eol.crlf_flag cfg.strict CK.valid (fun _ => rfl) (fun _ => rfl) _ _

theorem CK_parseData_rest (cfg : Cfg) (k : CK) (buf : Bytes) :
    (∃ pre, buf = pre ++ (CK.parseData cfg k buf).2.1) ∧
    ((CK.parseData cfg k buf).2.2 = true → (CK.parseData cfg k buf).2.1.length < buf.length) := by
  rw [CK_parseData_eq]
  obtain ⟨⟨p, hp⟩, hlt⟩ := CK.eol.crlf_rest cfg.strict
    { k with data := k.data ++ buf.take (k.hdr.size - k.data.length) } (buf.drop (k.hdr.size - k.data.length))
  refine ⟨⟨buf.take (k.hdr.size - k.data.length) ++ p, ?_⟩, fun ht => ?_⟩
  · rw [List.append_assoc, ← hp, List.take_append_drop]
  · exact Nat.lt_of_lt_of_le (hlt ht) (List.length_drop ▸ Nat.sub_le _ _)

theorem CK_parseData_frag (cfg : Cfg) (k : CK) (a b : Bytes) :
    CK.parseData cfg k (a ++ b) =
      (let r := CK.parseData cfg k a
       if r.2.2 || !r.2.1.isEmpty then (r.1, r.2.1 ++ b, r.2.2) else CK.parseData cfg r.1 b) := by
  rw [CK_parseData_eq cfg k (a ++ b), CK_parseData_eq cfg k a]
  by_cases hlen : k.hdr.size - k.data.length ≤ a.length
  · -- the law of the CRLF, after which no data is required
    have hfr := CK.eol.crlf_frame cfg.strict (fun k : CK => k.hdr.size - k.data.length) (fun _ => rfl)
      (fun _ => rfl) { k with data := k.data ++ a.take (k.hdr.size - k.data.length) }
      (a.drop (k.hdr.size - k.data.length))
    rw [List.take_append_of_le_length hlen, List.drop_append_of_le_length hlen,
      CK.eol.crlf_append cfg.strict (fun _ => rfl)]
    generalize CK.eol.crlf cfg.strict _ (a.drop (k.hdr.size - k.data.length)) = r at hfr ⊢
    dsimp only at hfr ⊢
    split
    · rfl
    · rw [CK_parseData_eq, hfr]
      simp only [List.length_append, List.length_take, Nat.min_eq_left hlen, Nat.sub_add_eq, Nat.sub_self,
        List.take_zero, List.append_nil, List.drop_zero]
  · -- the read of `b` takes what is still required
    have hle : a.length ≤ k.hdr.size - k.data.length := Nat.le_of_not_le hlen
    rw [List.take_append, List.drop_append, List.take_of_length_le hle, List.drop_eq_nil_of_le hle, Eol.crlf_nil]
    simp only [List.isEmpty_nil, Bool.not_true, Bool.or_self, Bool.false_eq_true, if_false]
    rw [CK_parseData_eq]
    simp only [List.length_append, Nat.sub_add_eq, List.nil_append, List.append_assoc]

theorem CK_parseData_laws (cfg : Cfg) : Laws (CK.parseData cfg) CK.valid (fun k => k.trailers.fail) where
  suffix k buf := (CK_parseData_rest cfg k buf).1
  flag k x hv := by rw [CK_parseData_flag, hv, Bool.false_or]
  seq := by
    intro k a b _ hf
    rw [CK_parseData_frag cfg k a b]
    simp only [(CK_parseData_facts cfg k a).2.1, hf, Bool.or_false]

theorem CK_body_hdr (cfg : Cfg) (k : CK) (buf : Bytes) : (CK_body cfg k buf).1.hdr = k.hdr := by
  unfold CK_body
  split
  · exact hdrs_frame (get := CK.trailers) (set := fun k h => { k with trailers := h })
      (mark := fun k => { k with valid := true }) false cfg CK.hdr (fun _ => rfl) (fun _ _ => rfl) k buf
  · exact (CK_parseData_facts cfg k buf).1

theorem CK_body_laws (cfg : Cfg) : Laws (CK_body cfg) CK.valid (fun k => k.trailers.fail) := by
  have hl : ∀ k x, (CK_body cfg k x).1.isLast = k.isLast := fun k x => by simp only [CK.isLast, CK_body_hdr]
  refine Laws.ite CK.isLast
    (hdrs_laws false cfg (fun _ _ => rfl) (fun _ _ _ => rfl) (fun _ _ => rfl) (fun _ => rfl))
    (CK_parseData_laws cfg) (fun k a hc => ?_) (fun k a hc => ?_)
  · have := hl k a
    rwa [CK_body, if_pos hc, hc] at this
  · have := hl k a
    rwa [CK_body, if_neg (by simp [hc]), hc] at this

theorem CK_body_true_lt (cfg : Cfg) (k : CK) (buf : Bytes)
    (ht : (CK_body cfg k buf).2.2 = true) : (CK_body cfg k buf).2.1.length < buf.length := by
  unfold CK_body at ht ⊢
  split at ht
  · next hl => rw [if_pos hl]; exact hdrs_true_lt false cfg k buf (fun h => by cases h) ht
  · next hl => rw [if_neg hl]; exact (CK_parseData_rest cfg k buf).2 ht

end Cmp

theorem RQ.laws (cfg : Cfg) : Laws (RQ.parse cfg) RQ.valid RQ.fail := by
  rw [Cmp.RQ_parse_eq]
  exact Cmp.seq2_laws (fun _ _ => rfl) (fun _ _ _ => rfl) (fun _ _ => rfl) (fun _ _ => rfl)
    (Cmp.hdrs_frame true cfg RQ.line (fun _ => rfl) (fun _ _ => rfl)) (RL.laws cfg)
    (Cmp.hdrs_laws true cfg (fun _ _ => rfl) (fun _ _ _ => rfl) (fun _ _ => rfl) (fun _ => rfl))

theorem RP.laws (cfg : Cfg) : Laws (RP.parse cfg) RP.valid RP.fail := by
  rw [Cmp.RP_parse_eq]
  exact Cmp.seq2_laws (fun _ _ => rfl) (fun _ _ _ => rfl) (fun _ _ => rfl) (fun _ _ => rfl)
    (Cmp.hdrs_frame true cfg RP.line (fun _ => rfl) (fun _ _ => rfl)) (SL.laws cfg)
    (Cmp.hdrs_laws true cfg (fun _ _ => rfl) (fun _ _ _ => rfl) (fun _ _ => rfl) (fun _ => rfl))

theorem CK.laws (cfg : Cfg) : Laws (CK.parse cfg) CK.valid CK.fail := by
  rw [Cmp.CK_parse_eq]
  exact Cmp.seq2_laws (fun _ _ => rfl) (fun _ _ _ => rfl) (fun _ _ => rfl) (fun _ _ => rfl)
    (Cmp.CK_body_hdr cfg) (CH.laws cfg) (Cmp.CK_body_laws cfg)

theorem RQ.done_eq (q : RQ) : RQ.done q = (q.valid || q.fail) := by
  simp only [RQ.done, RQ.fail, MH.fail, Bool.or_assoc]

theorem RQ.parse_seq (cfg : Cfg) : SeqLaw (RQ.parse cfg) RQ.done := (RQ.laws cfg).seqLaw RQ.done RQ.done_eq

theorem RP.done_eq (q : RP) : RP.done q = (q.valid || q.fail) := by
  simp only [RP.done, RP.fail, MH.fail, Bool.or_assoc]

theorem RP.parse_seq (cfg : Cfg) : SeqLaw (RP.parse cfg) RP.done := (RP.laws cfg).seqLaw RP.done RP.done_eq

theorem CK.done_eq (k : CK) : CK.done k = (k.valid || k.fail) := by
  simp only [CK.done, CK.fail, MH.fail, Bool.or_assoc]

theorem CK.parse_seq (cfg : Cfg) : SeqLaw (CK.parse cfg) CK.done := (CK.laws cfg).seqLaw CK.done CK.done_eq

theorem RQ.parse_suffix (cfg : Cfg) : SuffixLaw (RQ.parse cfg) := (RQ.laws cfg).suffix

theorem RP.parse_suffix (cfg : Cfg) : SuffixLaw (RP.parse cfg) := (RP.laws cfg).suffix

theorem CK.parse_suffix (cfg : Cfg) : SuffixLaw (CK.parse cfg) := (CK.laws cfg).suffix

theorem CK.parse_true_lt (cfg : Cfg) (k : CK) (buf : Bytes) (ht : (CK.parse cfg k buf).2.2 = true) :
    (CK.parse cfg k buf).2.1.length < buf.length := by
  rw [Cmp.CK_parse_eq] at ht ⊢
  exact Cmp.seq2_true_lt (fun _ => True) (fun _ _ _ => trivial) (CH.parse_suffix cfg)
    (fun s b _ h => Cmp.CK_body_true_lt cfg s b h) k buf trivial ht

theorem RQ.parse_true_lt (cfg : Cfg) (q : RQ) (buf : Bytes) (hh : q.headers.valid = false)
    (ht : (RQ.parse cfg q buf).2.2 = true) : (RQ.parse cfg q buf).2.1.length < buf.length := by
  rw [Cmp.RQ_parse_eq] at ht ⊢
  refine Cmp.seq2_true_lt (fun q => q.headers.valid = false) ?_ ?_ ?_ q buf hh ht
  · exact fun _ _ h => h
  · exact RL.parse_suffix cfg
  · exact fun s b hg h => Cmp.hdrs_true_lt true cfg s b (fun _ => hg) h

theorem RP.parse_true_lt (cfg : Cfg) (q : RP) (buf : Bytes) (hh : q.headers.valid = false)
    (ht : (RP.parse cfg q buf).2.2 = true) : (RP.parse cfg q buf).2.1.length < buf.length := by
  rw [Cmp.RP_parse_eq] at ht ⊢
  refine Cmp.seq2_true_lt (fun q => q.headers.valid = false) ?_ ?_ ?_ q buf hh ht
  · exact fun _ _ h => h
  · exact SL.parse_suffix cfg
  · exact fun s b hg h => Cmp.hdrs_true_lt true cfg s b (fun _ => hg) h

theorem RQ.parse_flags (cfg : Cfg) (q : RQ) (buf : Bytes) :
    (RQ.parse cfg q buf).1.headers.valid = (q.headers.valid || (RQ.parse cfg q buf).2.2) := by
  rw [Cmp.RQ_parse_eq]
  refine Cmp.head_flags cfg ?_ ?_ ?_ q buf <;> intros <;> rfl

theorem RP.parse_flags (cfg : Cfg) (q : RP) (buf : Bytes) :
    (RP.parse cfg q buf).1.headers.valid = (q.headers.valid || (RP.parse cfg q buf).2.2) := by
  rw [Cmp.RP_parse_eq]
  refine Cmp.head_flags cfg ?_ ?_ ?_ q buf <;> intros <;> rfl

end Via
