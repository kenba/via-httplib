import ViaProofs.Frag.Laws
import ViaProofs.Frag.Scan
import ViaProofs.Frag.Crlf
/-
  The laws for `message_headers::parse` (with `field_line::parse` and its fold look-ahead).  A run is cut into the
  blank-line code and the completion of one field line (`MH.finish`); `MH.parse_ind` is induction over a run.
-/
namespace Via

theorem FL.peek_append (s : FL) (d : Byte) (ds b : Bytes) : s.peek ((d :: ds) ++ b) = s.peek (d :: ds) := by
  simp [FL.peek]

theorem FL.loop_outcome (cfg : Cfg) (s : FL) (a : Bytes) (hf : s.fail = false) :
    ((FL.loop cfg s a).1.fail = true ∧ (FL.loop cfg s a).2.2 = false) ∨
    ((FL.loop cfg s a).1.fail = false ∧ ((FL.loop cfg s a).2.2 = true ∨ (FL.loop cfg s a).2.1 = [])) := by
  rw [FL.loop_eq]
  rcases (FL.scan cfg).loop_cases (·.fail = false) (·.fail = true)
    (fun s c cs hs _ => ((FL.peek_keeps _ cs).1.trans (FL.parseChar_keeps cfg s c).1).trans hs)
    (fun _ _ _ _ => rfl) a s hf with ⟨e, hi, hrest⟩ | ⟨e, hj⟩
  · refine Or.inr ⟨hi, ?_⟩
    cases hfin : (FL.scan cfg).fin ((FL.scan cfg).loop s a).1
    · exact Or.inr (hrest hfin)
    · exact Or.inl (by simp only [e, Bool.not_false, Bool.true_and]; exact hfin)
  · exact Or.inl ⟨hj, by simp only [e, Bool.not_true, Bool.false_and]⟩

theorem FL.loop_length_ge (cfg : Cfg) (s : FL) (a : Bytes) : s.length ≤ (FL.loop cfg s a).1.length := by
  rw [FL.loop_eq]
  rcases (FL.scan cfg).loop_cases (fun x => s.length ≤ x.length) (fun x => s.length ≤ x.length)
    (fun t c cs ht _ => by
      show s.length ≤ ((FL.parseChar cfg t c).1.peek cs).length
      rw [(FL.peek_keeps _ cs).2, (FL.parseChar_keeps cfg t c).2]; exact Nat.le_succ_of_le ht)
    (fun t c ht _ => by
      show s.length ≤ (FL.parseChar cfg t c).1.length
      rw [(FL.parseChar_keeps cfg t c).2]; exact Nat.le_succ_of_le ht)
    a s (Nat.le_refl _) with ⟨_, hi, _⟩ | ⟨_, hj⟩
  · exact hi
  · exact hj

theorem FL.loop_started (cfg : Cfg) (s : FL) (c : Byte) (cs : Bytes) (hs : s.st ≠ .valid) :
    (FL.loop cfg s (c :: cs)).1.started = true := by
  have hv : (s.st == HS.valid) = false := by simp [hs]
  simp only [FL.loop, hv, FL.started]
  by_cases hok : (s.parseChar cfg c).2 = true
  · simp only [hok]
    have := FL.loop_length_ge cfg ((s.parseChar cfg c).1.peek cs) cs
    rw [(FL.peek_keeps _ cs).2, (FL.parseChar_keeps cfg s c).2] at this
    simp only [Bool.not_true, Bool.false_eq_true, if_false, gt_iff_lt, decide_eq_true_eq]
    omega
  · simp [hok, (FL.parseChar_keeps cfg s c).2]

/-- the second read starts with the re-entry look-ahead, `r.1.peek b` -/
theorem FL.loop_append (cfg : Cfg) (s : FL) (a b : Bytes) (hne : a ≠ []) (hf : s.fail = false) :
    FL.loop cfg s (a ++ b) =
      let r := FL.loop cfg s a
      if r.1.fail then (r.1, r.2.1 ++ b, false)
      else if r.2.1 ≠ [] then (r.1, r.2.1 ++ b, r.2.2)
      else FL.loop cfg (r.1.peek b) b := by
  induction a generalizing s with
  | nil => exact absurd rfl hne
  | cons c cs ih =>
    rw [List.cons_append, FL.loop, FL.loop]
    by_cases hv : (s.st == HS.valid) = true
    · -- nothing is consumed
      simp only [hv, if_true, hf, Bool.false_eq_true, if_false, ne_eq, reduceCtorEq, not_false_eq_true,
        List.cons_append]
    · simp only [hv, Bool.false_eq_true, if_false]
      by_cases hok : (s.parseChar cfg c).2 = true
      · simp only [hok, Bool.not_true, Bool.false_eq_true, if_false]
        have hf0 : (s.parseChar cfg c).1.fail = false := (FL.parseChar_keeps cfg s c).1.trans hf
        cases cs with
        | nil =>
          -- the last byte of `a`: its look-ahead saw nothing, the one of the joint read sees `b`
          simp only [List.nil_append, FL.loop, FL.peek, hf0, Bool.false_eq_true, if_false, ne_eq, not_true_eq_false]
        | cons d ds =>
          rw [FL.peek_append]
          exact ih _ (List.cons_ne_nil d ds) ((FL.peek_keeps _ _).1.trans hf0)
      · simp only [hok, Bool.not_false, if_true]

theorem FL.loop_suffix (cfg : Cfg) (s : FL) (buf : Bytes) : ∃ pre, buf = pre ++ (FL.loop cfg s buf).2.1 := by
  rw [FL.loop_eq]
  exact (FL.scan cfg).loop_suffix buf s

theorem MH.commit_fst (cfg : Cfg) (h : MH) (f : FL) :
    (MH.commit cfg h f).1 = { h with length := h.length + (f.name.length + f.value.length), number := h.number + 1,
                                     fields := h.fields.add f.name f.value, field := {} } := by
  unfold MH.commit
  simp only [apply_ite Prod.fst, ite_self]

theorem MH.commit_snd (cfg : Cfg) (h : MH) (f : FL) :
    (MH.commit cfg h f).2 =
      !(decide (h.length + (f.name.length + f.value.length) > cfg.maxHdrLen) || decide (h.number + 1 > cfg.maxHdrNum)) := by
  unfold MH.commit
  dsimp only
  split <;> simp only [*, Bool.not_true, Bool.not_false]

theorem MH.commit_field_irrel (cfg : Cfg) (h : MH) (f g : FL) :
    MH.commit cfg { h with field := g } f = MH.commit cfg h f := by
  simp [MH.commit]

theorem MH.fresh_nil (cfg : Cfg) (h : MH) : MH.fresh cfg h [] = (h, [], false) := by
  rw [MH.fresh]


/-- what `message_headers::parse` does with the result of `field_line::parse` -/
def MH.finish (cfg : Cfg) (h : MH) (r : FL × Bytes × Bool) : MH × Bytes × Bool :=
  if !r.2.2 then ({ h with field := r.1 }, r.2.1, false)
  else if r.2.1.isEmpty then ({ h with field := r.1 }, [], false)
  else
    let hc := MH.commit cfg h r.1
    if !hc.2 then (hc.1, r.2.1, false)
    else MH.fresh cfg hc.1 r.2.1

theorem MH.fresh_cons (cfg : Cfg) (h : MH) (c : Byte) (cs : Bytes) :
    MH.fresh cfg h (c :: cs) =
      if isEol c then MH.blank cfg h (c :: cs) else MH.finish cfg h (FL.loop cfg {} (c :: cs)) := by
  rw [MH.fresh]; rfl

theorem MH.finish_nil (cfg : Cfg) (h : MH) (f : FL) (ok : Bool) :
    MH.finish cfg h (f, [], ok) = ({ h with field := f }, [], false) := by
  cases ok <;> rfl

theorem MH.finish_field_irrel (cfg : Cfg) (h : MH) (g : FL) (r : FL × Bytes × Bool) :
    MH.finish cfg { h with field := g } r = MH.finish cfg h r := by
  simp only [MH.finish, MH.commit_field_irrel]

theorem MH.parse_nil (cfg : Cfg) (h : MH) : MH.parse cfg h [] = (h, [], false) := by
  simp only [MH.parse, MH.blank, MH.fresh_nil, ite_self]

theorem MH.parse_blankCr (cfg : Cfg) (h : MH) (buf : Bytes) (hbc : h.blankCr = true) :
    MH.parse cfg h buf = MH.blank cfg h buf := by
  simp [MH.parse, hbc]

theorem MH.parse_started (cfg : Cfg) (h : MH) (c : Byte) (cs : Bytes)
    (hbc : h.blankCr = false) (hst : h.field.started = true) :
    MH.parse cfg h (c :: cs) = MH.finish cfg h (FL.loop cfg (h.field.peek (c :: cs)) (c :: cs)) := by
  unfold MH.parse
  rw [if_neg (by simp [hbc]), if_pos hst]
  rfl

theorem MH.parse_fresh (cfg : Cfg) (h : MH) (buf : Bytes) (hbc : h.blankCr = false) (hst : h.field.started = false) :
    MH.parse cfg h buf = MH.fresh cfg h buf := by
  simp [MH.parse, hbc, hst]

/-- `hs`: the side condition of `MH.parse_ind` -/
theorem MH.line_started (cfg : Cfg) (h : MH) (s : FL) (c : Byte) (cs : Bytes)
    (hs : s = {} ∨ h.field.started = true ∧ s = h.field.peek (c :: cs)) :
    (FL.loop cfg s (c :: cs)).1.started = true := by
  rcases hs with rfl | ⟨hst, rfl⟩
  · exact FL.loop_started cfg {} c cs (by decide)
  · have := FL.loop_length_ge cfg (h.field.peek (c :: cs)) (c :: cs)
    simp only [FL.started, (FL.peek_keeps _ _).2, gt_iff_lt, decide_eq_true_eq] at hst this ⊢
    omega

/-- Induction over a run of `message_headers::parse`: the empty read, the blank-line code, or a field line read by
    `FL.loop` from `s` (a fresh line, or the line in progress after the re-entry look-ahead) that leaves the loop
    (`stop`: rejected, or the input used up; `full`: a limit reached at the commit) or is committed (`next`), after
    which the run goes on with what the line left. -/
theorem MH.parse_ind (cfg : Cfg) (Q : MH → Bytes → MH × Bytes × Bool → Prop)
    (nil : ∀ h, Q h [] (h, [], false))
    (blank : ∀ h buf, Q h buf (MH.blank cfg h buf))
    (stop : ∀ h s c cs, (s = {} ∨ h.field.started = true ∧ s = h.field.peek (c :: cs)) →
      ((FL.loop cfg s (c :: cs)).2.2 = false ∨ (FL.loop cfg s (c :: cs)).2.1 = []) →
      Q h (c :: cs) ({ h with field := (FL.loop cfg s (c :: cs)).1 }, (FL.loop cfg s (c :: cs)).2.1, false))
    (full : ∀ h s c cs, (s = {} ∨ h.field.started = true ∧ s = h.field.peek (c :: cs)) → (FL.loop cfg s (c :: cs)).2.2 = true →
      (FL.loop cfg s (c :: cs)).2.1 ≠ [] → (MH.commit cfg h (FL.loop cfg s (c :: cs)).1).2 = false →
      Q h (c :: cs) ((MH.commit cfg h (FL.loop cfg s (c :: cs)).1).1, (FL.loop cfg s (c :: cs)).2.1, false))
    (next : ∀ h s c cs res, (s = {} ∨ h.field.started = true ∧ s = h.field.peek (c :: cs)) → (FL.loop cfg s (c :: cs)).2.2 = true →
      (FL.loop cfg s (c :: cs)).2.1 ≠ [] → (MH.commit cfg h (FL.loop cfg s (c :: cs)).1).2 = true →
      Q (MH.commit cfg h (FL.loop cfg s (c :: cs)).1).1 (FL.loop cfg s (c :: cs)).2.1 res → Q h (c :: cs) res) :
    ∀ h buf, Q h buf (MH.parse cfg h buf) := by
  have fin : ∀ h s c cs, (s = {} ∨ h.field.started = true ∧ s = h.field.peek (c :: cs)) →
      (∀ h', Q h' (FL.loop cfg s (c :: cs)).2.1 (MH.fresh cfg h' (FL.loop cfg s (c :: cs)).2.1)) →
      Q h (c :: cs) (MH.finish cfg h (FL.loop cfg s (c :: cs))) := by
    intro h s c cs hs ih
    have st := stop h s c cs hs
    have fu := full h s c cs hs
    have ne := fun res => next h s c cs res hs
    generalize FL.loop cfg s (c :: cs) = r at st fu ne ih ⊢
    obtain ⟨f, rest, ok⟩ := r
    cases ok
    · exact st (Or.inl rfl)
    · cases rest with
      | nil => exact st (Or.inr rfl)
      | cons d ds =>
        show Q h (c :: cs) (if !(MH.commit cfg h f).2 then _ else _)
        cases hc : (MH.commit cfg h f).2
        · exact fu rfl (List.cons_ne_nil d ds) hc
        · exact ne _ rfl (List.cons_ne_nil d ds) hc (ih _)
  have fresh : ∀ h buf, Q h buf (MH.fresh cfg h buf) := by
    intro h buf
    generalize hn : buf.length = n
    induction n using Nat.strongRecOn generalizing buf h with
    | _ n ih =>
      cases buf with
      | nil => rw [MH.fresh_nil]; exact nil h
      | cons c cs =>
        rw [MH.fresh_cons]
        split
        · exact blank h _
        · have hprog := FL.loop_progress cfg {} c cs (by decide)  -- the measure: `omega` below uses it
          exact fin h {} c cs (Or.inl rfl) fun h' =>
            ih _ (by simp only [List.length_cons] at hn; omega) h' _ rfl
  intro h buf
  by_cases hbc : h.blankCr = true
  · rw [MH.parse_blankCr cfg h buf hbc]; exact blank h buf
  · have hbc' : h.blankCr = false := by simpa using hbc
    by_cases hst : h.field.started = true
    · cases buf with
      | nil => rw [MH.parse_nil]; exact nil h
      | cons c cs =>
        rw [MH.parse_started cfg h c cs hbc' hst]
        exact fin h _ c cs (Or.inr ⟨hst, rfl⟩) fun h' => fresh h' _
    · rw [MH.parse_fresh cfg h buf hbc' (by simpa using hst)]
      exact fresh h buf

abbrev MH.eol : Eol MH := ⟨MH.blankCr, fun h => { h with blankCr := true }, fun h => { h with valid := true }⟩

theorem MH.blank_eq (cfg : Cfg) (h : MH) (c : Byte) (cs : Bytes) :
    MH.blank cfg h (c :: cs) =
      if !h.blankCr && !isEol c then (h, c :: cs, false) else MH.eol.crlf cfg.strict h (c :: cs) := by
  rw [MH.blank]
  cases (!h.blankCr && !isEol c)
  · dsimp only [Eol.crlf]
    cases (!h.blankCr && c == 13)
    · rw [Bool.not_false, Bool.true_and]
      cases (cfg.strict && !h.blankCr) <;> rfl
    · cases cs <;> rfl
  · rfl

theorem MH.blank_of_cr (cfg : Cfg) (h : MH) (buf : Bytes) (hbc : h.blankCr = true) :
    MH.blank cfg h buf = MH.eol.crlf cfg.strict h buf := by
  cases buf with
  | nil => rfl
  | cons c cs => rw [MH.blank_eq, if_neg (by simp [hbc])]

theorem MH.blank_cases (cfg : Cfg) (h : MH) (buf : Bytes) :
    MH.blank cfg h buf = (h, buf, false) ∨ MH.blank cfg h buf = MH.eol.crlf cfg.strict h buf := by
  cases buf with
  | nil => exact Or.inr rfl
  | cons c cs =>
    rw [MH.blank_eq]
    split
    · exact Or.inl rfl
    · exact Or.inr rfl

theorem MH.blank_frame (cfg : Cfg) (h : MH) (buf : Bytes) :
    (MH.blank cfg h buf).1.fields = h.fields ∧ (MH.blank cfg h buf).1.length = h.length ∧
    (MH.blank cfg h buf).1.number = h.number ∧ (MH.blank cfg h buf).1.field = h.field := by
  rcases MH.blank_cases cfg h buf with e | e <;> rw [e]
  · exact ⟨rfl, rfl, rfl, rfl⟩
  · simpa only [Prod.mk.injEq] using MH.eol.crlf_frame cfg.strict
      (fun h => (h.fields, h.length, h.number, h.field)) (fun _ => rfl) (fun _ => rfl) h buf

theorem MH.blank_field (cfg : Cfg) (h : MH) (buf : Bytes) : (MH.blank cfg h buf).1.field = h.field :=
  (MH.blank_frame cfg h buf).2.2.2

theorem MH.blank_flag (cfg : Cfg) (h : MH) (buf : Bytes) :
    (MH.blank cfg h buf).1.valid = (h.valid || (MH.blank cfg h buf).2.2) := by
  rcases MH.blank_cases cfg h buf with e | e <;> rw [e]
  · exact (Bool.or_false _).symm
  · exact MH.eol.crlf_flag cfg.strict MH.valid (fun _ => rfl) (fun _ => rfl) h buf

theorem MH.blank_rest (cfg : Cfg) (h : MH) (buf : Bytes) :
    (∃ pre, buf = pre ++ (MH.blank cfg h buf).2.1) ∧
    ((MH.blank cfg h buf).2.2 = true → (MH.blank cfg h buf).2.1.length < buf.length) := by
  rcases MH.blank_cases cfg h buf with e | e <;> rw [e]
  · exact ⟨⟨[], rfl⟩, nofun⟩
  · exact MH.eol.crlf_rest cfg.strict h buf

/-!
  `MH.blank_frag`, `MH.fresh_frag`, `MH.parse_frag` do not mention `valid` (which `message_headers::parse` writes and
  never reads); `MH.blank_append`, `MH.fresh_append` and `MH.parse_seq` are the same for a state that is not `valid`
  yet, where "finished" can be read off `MH.done`. -/

theorem MH.blank_frag (cfg : Cfg) (h : MH) (a b : Bytes) :
    MH.blank cfg h (a ++ b) =
      (let r := MH.blank cfg h a
       if r.2.2 || !r.2.1.isEmpty then (r.1, r.2.1 ++ b, r.2.2) else MH.blank cfg r.1 b) := by
  cases a with
  | nil => rfl
  | cons c cs =>
    rw [List.cons_append, MH.blank_eq, MH.blank_eq]
    split
    · rfl
    · -- a read that stops inside the CRLF has noted the CR, so the next read is the CRLF again
      rw [← List.cons_append, MH.eol.crlf_append cfg.strict (fun _ => rfl)]
      have hinc := MH.eol.crlf_incomplete cfg.strict h c cs
      generalize MH.eol.crlf cfg.strict h (c :: cs) = r at hinc ⊢
      dsimp only
      split
      · rfl
      · next hne => rw [MH.blank_of_cr cfg r.1 b (by rw [hinc (Bool.eq_false_iff.mpr hne)])]

theorem MH.blank_append (cfg : Cfg) (h : MH) (a b : Bytes) (hd : h.done = false) :
    MH.blank cfg h (a ++ b) =
      let r := MH.blank cfg h a
      if r.1.done || !r.2.1.isEmpty then (r.1, r.2.1 ++ b, r.2.2)
      else MH.blank cfg r.1 b := by
  simp only [MH.done, Bool.or_eq_false_iff] at hd
  rw [MH.blank_frag]
  simp only [MH.done, MH.blank_flag, MH.blank_field cfg h a, hd.1, hd.2, Bool.false_or, Bool.or_false]

/-- `hs`: the blank-line code as a run enters it -/
theorem MH.blank_parse (cfg : Cfg) (h : MH) (c : Byte) (cs b : Bytes)
    (hs : h.blankCr = true ∨ isEol c = true) (hf : h.field.fail = false) :
    MH.blank cfg h ((c :: cs) ++ b) =
      (let r := MH.blank cfg h (c :: cs)
       if r.2.2 || r.1.fail || !r.2.1.isEmpty then (r.1, r.2.1 ++ b, r.2.2) else MH.parse cfg r.1 b) := by
  have hcr : ((MH.blank cfg h (c :: cs)).2.2 || !(MH.blank cfg h (c :: cs)).2.1.isEmpty) = false →
      (MH.blank cfg h (c :: cs)).1.blankCr = true := fun hr => by
    rw [MH.blank_eq, if_neg (by rcases hs with e | e <;> simp [e])] at hr ⊢
    rw [MH.eol.crlf_incomplete cfg.strict h c cs hr]
  have hfr : (MH.blank cfg h (c :: cs)).1.fail = false := (congrArg FL.fail (MH.blank_field cfg h _)).trans hf
  rw [MH.blank_frag]
  generalize MH.blank cfg h (c :: cs) = r at hcr hfr ⊢
  simp only [hfr, Bool.or_false]
  split
  · rfl
  · next hne => rw [MH.parse_blankCr cfg r.1 b (hcr (Bool.eq_false_iff.mpr hne))]

/-- `hrec` is the induction hypothesis in `MH.fresh_frag`, and `MH.fresh_frag` itself in `MH.parse_frag` -/
theorem MH.finish_frag (cfg : Cfg) (h : MH) (s : FL) (c : Byte) (cs b : Bytes)
    (hbc : h.blankCr = false) (hsf : s.fail = false)
    (hpos : (FL.loop cfg s (c :: cs)).1.started = true)
    (hrec : ∀ h' : MH, h'.blankCr = false → h'.field.started = false → h'.field.fail = false →
      MH.fresh cfg h' ((FL.loop cfg s (c :: cs)).2.1 ++ b) =
        (let r := MH.fresh cfg h' (FL.loop cfg s (c :: cs)).2.1
         if r.2.2 || r.1.fail || !r.2.1.isEmpty then (r.1, r.2.1 ++ b, r.2.2) else MH.parse cfg r.1 b)) :
    MH.finish cfg h (FL.loop cfg s ((c :: cs) ++ b)) =
      (let r := MH.finish cfg h (FL.loop cfg s (c :: cs))
       if r.2.2 || r.1.fail || !r.2.1.isEmpty then (r.1, r.2.1 ++ b, r.2.2) else MH.parse cfg r.1 b) := by
  rw [FL.loop_append cfg s (c :: cs) b (by simp) hsf]
  have out := FL.loop_outcome cfg s (c :: cs) hsf
  generalize FL.loop cfg s (c :: cs) = ra at hpos hrec out ⊢
  obtain ⟨f, rest, ok⟩ := ra
  dsimp only at hpos hrec out ⊢
  rcases out with ⟨hfail, hok⟩ | ⟨hfail, hx⟩
  · -- a byte was rejected
    subst hok
    simp [MH.finish, MH.fail, hfail]
  · cases rest with
    | nil =>
      -- the next read continues this line, after the look-ahead
      rw [MH.finish_nil]
      simp only [hfail, Bool.false_eq_true, if_false, ne_eq, not_true_eq_false, MH.fail, Bool.or_self,
        List.isEmpty_nil, Bool.not_true]
      cases b with
      | nil => rw [MH.parse_nil]; exact MH.finish_nil cfg h f _
      | cons d ds =>
        rw [MH.parse_started cfg { h with field := f } d ds hbc hpos]
        exact (MH.finish_field_irrel cfg h f _).symm
    | cons d ds =>
      have hok : ok = true := hx.resolve_right (List.cons_ne_nil d ds)
      subst hok
      simp only [hfail, Bool.false_eq_true, if_false, ne_eq, reduceCtorEq, not_false_eq_true, if_true,
        MH.finish, Bool.not_true, List.cons_append, List.isEmpty_cons]
      by_cases hc : (MH.commit cfg h f).2 = true
      · simp only [hc, Bool.not_true, Bool.false_eq_true, if_false]
        exact hrec _ (MH.commit_fst cfg h f ▸ hbc) (MH.commit_fst cfg h f ▸ rfl) (MH.commit_fst cfg h f ▸ rfl)
      · simp [hc]

theorem MH.fresh_frag (cfg : Cfg) (h : MH) (a b : Bytes)
    (hbc : h.blankCr = false) (hns : h.field.started = false) (hf : h.field.fail = false) :
    MH.fresh cfg h (a ++ b) =
      (let r := MH.fresh cfg h a
       if r.2.2 || r.1.fail || !r.2.1.isEmpty then (r.1, r.2.1 ++ b, r.2.2) else MH.parse cfg r.1 b) := by
  generalize hn : a.length = n
  induction n using Nat.strongRecOn generalizing a h with
  | _ n ih =>
    cases a with
    | nil =>
      simp only [List.nil_append, MH.fresh_nil, MH.fail, hf, Bool.or_self, List.isEmpty_nil, Bool.not_true,
        Bool.false_eq_true, if_false]
      exact (MH.parse_fresh cfg h b hbc hns).symm
    | cons c cs =>
      rw [List.cons_append, MH.fresh_cons, MH.fresh_cons]
      split
      · next he => exact MH.blank_parse cfg h c cs b (Or.inr he) hf
      · have hprog := FL.loop_progress cfg {} c cs (by decide)  -- the measure: `omega` below uses it
        exact MH.finish_frag cfg h {} c cs b hbc rfl (FL.loop_started cfg {} c cs (by decide))
          fun h' hbc' hns' hf' => ih _ (by simp only [List.length_cons] at hn; omega) h' _ hbc' hns' hf' rfl

theorem MH.parse_frag (cfg : Cfg) (h : MH) (a b : Bytes) (hf : h.field.fail = false) :
    MH.parse cfg h (a ++ b) =
      (let r := MH.parse cfg h a
       if r.2.2 || r.1.fail || !r.2.1.isEmpty then (r.1, r.2.1 ++ b, r.2.2) else MH.parse cfg r.1 b) := by
  cases a with
  | nil =>
    rw [List.nil_append, MH.parse_nil]
    simp only [MH.fail, hf, Bool.or_self, List.isEmpty_nil, Bool.not_true, Bool.false_eq_true, if_false]
  | cons c cs =>
    by_cases hbc : h.blankCr = true
    · rw [MH.parse_blankCr cfg h _ hbc, MH.parse_blankCr cfg h _ hbc]
      exact MH.blank_parse cfg h c cs b (Or.inl hbc) hf
    · have hbc' : h.blankCr = false := by simpa using hbc
      by_cases hst : h.field.started = true
      · rw [List.cons_append, MH.parse_started cfg h c (cs ++ b) hbc' hst, MH.parse_started cfg h c cs hbc' hst,
          ← List.cons_append, FL.peek_append]
        exact MH.finish_frag cfg h _ c cs b hbc' ((FL.peek_keeps _ _).1.trans hf)
          (MH.line_started cfg h _ c cs (Or.inr ⟨hst, rfl⟩))
          fun h' => MH.fresh_frag cfg h' _ b
      · have hst' : h.field.started = false := by simpa using hst
        rw [MH.parse_fresh cfg h _ hbc' hst', MH.parse_fresh cfg h _ hbc' hst']
        exact MH.fresh_frag cfg h (c :: cs) b hbc' hst' hf

theorem MH.parse_flag (cfg : Cfg) (h : MH) (buf : Bytes) :
    (MH.parse cfg h buf).1.valid = (h.valid || (MH.parse cfg h buf).2.2) := by
  refine MH.parse_ind cfg (fun h _ res => res.1.valid = (h.valid || res.2.2))
    (fun _ => (Bool.or_false _).symm) (MH.blank_flag cfg) (fun _ _ _ _ _ _ => (Bool.or_false _).symm) ?_ ?_ h buf
  · intro h s c cs _ _ _ _
    rw [MH.commit_fst, Bool.or_false]
  · intro h s c cs res _ _ _ _ ih
    rwa [MH.commit_fst] at ih

theorem MH.parse_rest (cfg : Cfg) (h : MH) (buf : Bytes) :
    (∃ pre, buf = pre ++ (MH.parse cfg h buf).2.1) ∧
    ((MH.parse cfg h buf).2.2 = true → (MH.parse cfg h buf).2.1.length < buf.length) := by
  refine MH.parse_ind cfg
    (fun _ buf res => (∃ pre, buf = pre ++ res.2.1) ∧ (res.2.2 = true → res.2.1.length < buf.length))
    (fun _ => ⟨⟨[], rfl⟩, fun h => by cases h⟩) (MH.blank_rest cfg) ?_ ?_ ?_ h buf
  · intro h s c cs _ _
    exact ⟨FL.loop_suffix cfg s (c :: cs), fun h => by cases h⟩
  · intro h s c cs _ _ _ _
    exact ⟨FL.loop_suffix cfg s (c :: cs), fun h => by cases h⟩
  · intro h s c cs res _ _ _ _ ⟨⟨p2, h2⟩, hlt⟩
    obtain ⟨p1, h1⟩ := FL.loop_suffix cfg s (c :: cs)
    have hle := FL.loop_rest_le cfg s (c :: cs)
    exact ⟨⟨p1 ++ p2, by rw [List.append_assoc, ← h2, ← h1]⟩, fun ht => Nat.lt_of_lt_of_le (hlt ht) hle⟩

theorem MH.parse_suffix (cfg : Cfg) : SuffixLaw (MH.parse cfg) := fun h buf => (MH.parse_rest cfg h buf).1

theorem MH.parse_true_lt (cfg : Cfg) (h : MH) (buf : Bytes) (ht : (MH.parse cfg h buf).2.2 = true) :
    (MH.parse cfg h buf).2.1.length < buf.length :=
  (MH.parse_rest cfg h buf).2 ht

theorem MH.laws (cfg : Cfg) : Laws (MH.parse cfg) MH.valid MH.fail where
  suffix := MH.parse_suffix cfg
  flag h a hv := by rw [MH.parse_flag, hv, Bool.false_or]
  seq h a b _ hf := MH.parse_frag cfg h a b hf

theorem MH.parse_seq (cfg : Cfg) : SeqLaw (MH.parse cfg) MH.done := (MH.laws cfg).seqLaw MH.done fun _ => rfl

theorem MH.fresh_append (cfg : Cfg) (h : MH) (a b : Bytes)
    (hd : h.done = false) (hbc : h.blankCr = false) (hns : h.field.started = false) :
    MH.fresh cfg h (a ++ b) =
      let r := MH.fresh cfg h a
      if r.1.done || !r.2.1.isEmpty then (r.1, r.2.1 ++ b, r.2.2)
      else MH.parse cfg r.1 b := by
  rw [← MH.parse_fresh cfg h (a ++ b) hbc hns, ← MH.parse_fresh cfg h a hbc hns]
  exact MH.parse_seq cfg h a b hd

end Via
