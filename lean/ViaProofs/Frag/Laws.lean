import ViaProofs.Frag.Defs
/-
  The laws every incremental parser of the library obeys, as one bundle (`Laws`).  The composite parsers (`rx_request`,
  `rx_response`, `rx_chunk`) are two phases joined by `Cmp.seq2`, which preserves the bundle.
-/
namespace Via

theorem length_le_of_suffix {buf rest : Bytes} (h : ∃ pre, buf = pre ++ rest) : rest.length ≤ buf.length :=
  List.IsSuffix.length_le (h.imp fun _ => Eq.symm)

/-- `valid`: the message part is complete; `fail`: a syntax or limit error -/
structure Laws {S : Type} (P : S → Bytes → S × Bytes × Bool) (valid fail : S → Bool) : Prop where
  suffix : SuffixLaw P
  flag : ∀ s a, valid s = false → valid (P s a).1 = (P s a).2.2
  seq : ∀ s a b, valid s = false → fail s = false →
    P s (a ++ b) =
      (let r := P s a
       if r.2.2 || fail r.1 || !r.2.1.isEmpty then (r.1, r.2.1 ++ b, r.2.2) else P r.1 b)

/-- a parser fit to be the first of two phases -/
structure Laws1 {S : Type} (P : S → Bytes → S × Bytes × Bool) (valid fail : S → Bool) : Prop
    extends Laws P valid fail where
  clean : ∀ s a, fail s = false → (P s a).2.2 = true → fail (P s a).1 = false

theorem Laws.seqLaw {S : Type} {P : S → Bytes → S × Bytes × Bool} {valid fail : S → Bool}
    (h : Laws P valid fail) (done : S → Bool) (hd : ∀ s, done s = (valid s || fail s)) : SeqLaw P done := by
  intro s a b hds
  rw [hd, Bool.or_eq_false_iff] at hds
  rw [h.seq s a b hds.1 hds.2]
  simp only [hd, h.flag s a hds.1]

theorem Laws.ite {S : Type} {P Q : S → Bytes → S × Bytes × Bool} {valid fail : S → Bool} (c : S → Bool)
    (hP : Laws P valid fail) (hQ : Laws Q valid fail)
    (hcP : ∀ s a, c s = true → c (P s a).1 = true) (hcQ : ∀ s a, c s = false → c (Q s a).1 = false) :
    Laws (fun s a => if c s then P s a else Q s a) valid fail where
  suffix s a := by
    show ∃ pre, a = pre ++ (if c s then P s a else Q s a).2.1
    split
    · exact hP.suffix s a
    · exact hQ.suffix s a
  flag s a hv := by
    show valid (if c s then P s a else Q s a).1 = (if c s then P s a else Q s a).2.2
    split
    · exact hP.flag s a hv
    · exact hQ.flag s a hv
  seq s a b hv hf := by
    cases hc : c s
    · simp only [Bool.false_eq_true, if_false, hQ.seq s a b hv hf, hcQ s a hc]
    · simp only [if_true, hP.seq s a b hv hf, hcP s a hc]

namespace Cmp

def seq2 {S L : Type} (get : S → L) (set : S → L → S) (lvalid : L → Bool)
    (P1 : L → Bytes → L × Bytes × Bool) (P2 : S → Bytes → S × Bytes × Bool)
    (s : S) (buf : Bytes) : S × Bytes × Bool :=
  if lvalid (get s) then P2 s buf
  else
    let r := P1 (get s) buf
    if r.2.2 then P2 (set s r.1) r.2.1 else (set s r.1, r.2.1, false)

theorem seq2_ind {S L : Type} (get : S → L) (set : S → L → S) (lvalid : L → Bool)
    (P1 : L → Bytes → L × Bytes × Bool) (P2 : S → Bytes → S × Bytes × Bool)
    (I : S → Prop) (O : S × Bytes × Bool → Prop)
    (h1 : ∀ s buf, I s → if (P1 (get s) buf).2.2 then I (set s (P1 (get s) buf).1)
      else O (set s (P1 (get s) buf).1, (P1 (get s) buf).2.1, false))
    (h2 : ∀ s buf, I s → O (P2 s buf)) (s : S) (buf : Bytes) (hi : I s) :
    O (seq2 get set lvalid P1 P2 s buf) := by
  unfold seq2
  split
  · exact h2 s buf hi
  · have := h1 s buf hi
    dsimp only
    split <;> simp only [*, if_true, Bool.false_eq_true, if_false] at this
    · exact h2 _ _ this
    · exact this

section
variable {S L : Type} {get : S → L} {set : S → L → S} {lvalid lfail : L → Bool} {valid fail2 : S → Bool}
  {P1 : L → Bytes → L × Bytes × Bool} {P2 : S → Bytes → S × Bytes × Bool}

theorem seq2_laws (hgs : ∀ s l, get (set s l) = l) (hss : ∀ s l l', set (set s l) l' = set s l')
    (hv : ∀ s l, valid (set s l) = valid s) (hf : ∀ s l, fail2 (set s l) = fail2 s)
    (hg2 : ∀ s buf, get (P2 s buf).1 = get s)
    (h1 : Laws1 P1 lvalid lfail) (h2 : Laws P2 valid fail2) :
    Laws (seq2 get set lvalid P1 P2) valid (fun s => lfail (get s) || fail2 s) where
  suffix := by
    intro s buf
    unfold seq2
    split
    · exact h2.suffix s buf
    · obtain ⟨p1, e1⟩ := h1.suffix (get s) buf
      dsimp only
      split
      · obtain ⟨p2, e2⟩ := h2.suffix (set s (P1 (get s) buf).1) (P1 (get s) buf).2.1
        exact ⟨p1 ++ p2, by rw [List.append_assoc, ← e2, ← e1]⟩
      · exact ⟨p1, e1⟩
  flag := seq2_ind get set lvalid P1 P2 (fun s => valid s = false) (fun p => valid p.1 = p.2.2)
    (fun s _ hs => by split <;> exact (hv s _).trans hs) h2.flag
  seq := by
    intro s a b hs hfs
    rw [Bool.or_eq_false_iff] at hfs
    obtain ⟨hf1, hf2⟩ := hfs
    -- once phase 1 is complete the composite is `P2`, which leaves the component alone
    have tail : ∀ t x, lvalid (get t) = true → lfail (get t) = false → valid t = false → fail2 t = false →
        P2 t (x ++ b) =
          (let r := P2 t x
           if r.2.2 || (lfail (get r.1) || fail2 r.1) || !r.2.1.isEmpty then (r.1, r.2.1 ++ b, r.2.2)
           else seq2 get set lvalid P1 P2 r.1 b) := by
      intro t x hl hf1 hs hf2
      rw [h2.seq t x b hs hf2]
      have hg := hg2 t x
      generalize P2 t x = r at hg
      simp only [hg, hf1, Bool.false_or]
      split
      · rfl
      · simp only [seq2, hg, hl, if_true]
    by_cases hl : lvalid (get s) = true
    · have e : ∀ x, seq2 get set lvalid P1 P2 s x = P2 s x := fun x => by simp only [seq2, hl, if_true]
      rw [e, e]
      exact tail s a hl hf1 hs hf2
    · have hl' : lvalid (get s) = false := by simpa using hl
      have e : ∀ x, seq2 get set lvalid P1 P2 s x =
          (let r := P1 (get s) x
           if r.2.2 then P2 (set s r.1) r.2.1 else (set s r.1, r.2.1, false)) :=
        fun x => by simp only [seq2, hl', Bool.false_eq_true, if_false]
      have f1 := h1.flag (get s) a hl'
      have f2 := h1.clean (get s) a hf1
      rw [e, e, h1.seq (get s) a b hl' hf1]
      generalize P1 (get s) a = r at f1 f2
      obtain ⟨l1, lr, lb⟩ := r
      dsimp only at f1 f2 ⊢
      cases lb with
      | true =>
        simp only [Bool.true_or, if_true]
        exact tail (set s l1) lr ((hgs s l1).symm ▸ f1) ((hgs s l1).symm ▸ f2 rfl) ((hv s l1).trans hs)
          ((hf s l1).trans hf2)
      | false =>
        simp only [Bool.false_or, Bool.false_eq_true, if_false, hgs, hf, hf2, Bool.or_false]
        split
        · rfl
        · simp only [seq2, hgs, f1, Bool.false_eq_true, if_false, hss]

theorem seq2_true_lt (good : S → Prop) (hset : ∀ s l, good s → good (set s l)) (h1 : SuffixLaw P1)
    (h2 : ∀ s buf, good s → (P2 s buf).2.2 = true → (P2 s buf).2.1.length < buf.length)
    (s : S) (buf : Bytes) (hg : good s) (ht : (seq2 get set lvalid P1 P2 s buf).2.2 = true) :
    (seq2 get set lvalid P1 P2 s buf).2.1.length < buf.length := by
  unfold seq2 at ht ⊢
  by_cases hv : lvalid (get s) = true
  · simp only [hv, if_true] at ht ⊢
    exact h2 s buf hg ht
  · simp only [hv, Bool.false_eq_true, if_false] at ht ⊢
    by_cases hr : (P1 (get s) buf).2.2 = true
    · simp only [hr, if_true] at ht ⊢
      exact Nat.lt_of_lt_of_le (h2 _ _ (hset s (P1 (get s) buf).1 hg) ht) (length_le_of_suffix (h1 (get s) buf))
    · simp [hr] at ht

end

/-- `message_headers::parse` as a second phase.  `skip`: `rx_request` and `rx_response` test `headers_.valid()` first,
    `rx_chunk` does not test its trailers -/
def hdrs {S : Type} (get : S → MH) (set : S → MH → S) (mark : S → S) (skip : Bool) (cfg : Cfg)
    (s : S) (buf : Bytes) : S × Bytes × Bool :=
  if skip && (get s).valid then (mark s, buf, true)
  else
    let r := MH.parse cfg (get s) buf
    if !r.2.2 then (set s r.1, r.2.1, false) else (mark (set s r.1), r.2.1, true)

theorem hdrs_ind {S : Type} {get : S → MH} {set : S → MH → S} {mark : S → S} (skip : Bool) (cfg : Cfg)
    (O : S × Bytes × Bool → Prop) (s : S) (buf : Bytes)
    (hskip : (skip && (get s).valid) = true → O (mark s, buf, true))
    (hno : (MH.parse cfg (get s) buf).2.2 = false →
      O (set s (MH.parse cfg (get s) buf).1, (MH.parse cfg (get s) buf).2.1, false))
    (hyes : (MH.parse cfg (get s) buf).2.2 = true →
      O (mark (set s (MH.parse cfg (get s) buf).1), (MH.parse cfg (get s) buf).2.1, true)) :
    O (hdrs get set mark skip cfg s buf) := by
  unfold hdrs
  split
  · next h => exact hskip h
  · dsimp only
    cases hr : (MH.parse cfg (get s) buf).2.2
    · exact hno hr
    · exact hyes hr

theorem hdrs_frame {S α : Type} {get : S → MH} {set : S → MH → S} {mark : S → S} (skip : Bool) (cfg : Cfg)
    (f : S → α) (hm : ∀ s, f (mark s) = f s) (hs : ∀ s h, f (set s h) = f s)
    (s : S) (buf : Bytes) : f (hdrs get set mark skip cfg s buf).1 = f s :=
  hdrs_ind skip cfg (fun p => f p.1 = f s) s buf (fun _ => hm s) (fun _ => hs _ _) (fun _ => (hm _).trans (hs _ _))

theorem RQ_parse_eq (cfg : Cfg) :
    RQ.parse cfg = seq2 RQ.line (fun q l => { q with line := l }) RL.valid (RL.parse cfg)
      (hdrs RQ.headers (fun q h => { q with headers := h }) (fun q => { q with valid := true }) true cfg) := by
  funext q buf
  unfold RQ.parse seq2 hdrs
  cases hv : q.line.valid
  · cases hr : (RL.parse cfg q.line buf).2.2 <;> simp [hr]
  · simp

theorem RP_parse_eq (cfg : Cfg) :
    RP.parse cfg = seq2 RP.line (fun q l => { q with line := l }) SL.valid (SL.parse cfg)
      (hdrs RP.headers (fun q h => { q with headers := h }) (fun q => { q with valid := true }) true cfg) := by
  funext q buf
  unfold RP.parse seq2 hdrs
  cases hv : q.line.valid
  · cases hr : (SL.parse cfg q.line buf).2.2 <;> simp [hr]
  · simp

/-- `rx_chunk::parse` after the chunk header -/
def CK_body (cfg : Cfg) (k : CK) (buf : Bytes) : CK × Bytes × Bool :=
  if k.isLast then
    hdrs CK.trailers (fun k h => { k with trailers := h }) (fun k => { k with valid := true }) false cfg k buf
  else CK.parseData cfg k buf

theorem CK_parse_eq (cfg : Cfg) :
    CK.parse cfg = seq2 CK.hdr (fun k h => { k with hdr := h }) CH.valid (CH.parse cfg) (CK_body cfg) := by
  funext k buf
  unfold CK.parse seq2 CK_body hdrs
  cases hv : k.hdr.valid
  · cases hr : (CH.parse cfg k.hdr buf).2.2 <;> simp [hr]
  · simp

end Cmp

end Via
