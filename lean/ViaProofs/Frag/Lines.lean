import ViaProofs.Frag.Scan
import ViaProofs.Frag.Laws
/-
  The laws for the three single-line parsers `request_line`, `response_line`, `chunk_header`, proved once for a `parse`
  around the common loop of which each is an instance.
-/
namespace Via

structure Line (S : Type) extends Scan S where
  mark : S → Bool → S
  valid : S → Bool
  fail : S → Bool

namespace Line

variable {S : Type} (L : Line S)

def parse (s : S) (buf : Bytes) : S × Bytes × Bool :=
  let r := L.loop s buf
  if r.2.2 then (r.1, r.2.1, false)
  else
    let v := L.fin r.1
    (L.mark r.1 v, r.2.1, v)

theorem parse_suffix : SuffixLaw L.parse := by
  intro s buf
  obtain ⟨p, hp⟩ := L.loop_suffix buf s
  refine ⟨p, ?_⟩
  simp only [parse]
  split <;> exact hp

/-- The flags are fields that `parse_char` leaves alone and only the loop and `parse` write: for a record whose loop
    sets them directly all but `step_valid` (and `ok_fail` when the loop does not reset `fail`) hold by `rfl`, the
    default. -/
structure Ok : Prop where
  step_valid : ∀ s c, L.valid (L.step s c).1 = L.valid s
  ok_fail : ∀ s c x, L.fail s = false → L.fail (L.ok (L.step s c).1 x) = false := by intros; rfl
  ok_rest : ∀ s x y, L.ok s x = L.ok s y := by intros; rfl
  ok_valid : ∀ s x, L.valid (L.ok s x) = L.valid s := by intros; rfl
  bad_valid : ∀ s, L.valid (L.bad s) = L.valid s := by intros; rfl
  bad_fail : ∀ s, L.fail (L.bad s) = true := by intros; rfl
  mark_valid : ∀ s v, L.valid (L.mark s v) = v := by intros; rfl
  mark_fail : ∀ s v, L.fail (L.mark s v) = L.fail s := by intros; rfl
  mark_self : ∀ s, L.mark s (L.valid s) = s := by intros; rfl

variable {L}

theorem Ok.loop_flags (h : L.Ok) (a : Bytes) (s : S) (hv : L.valid s = false) (hf : L.fail s = false) :
    ((L.loop s a).2.2 = false ∧ (L.valid (L.loop s a).1 = false ∧ L.fail (L.loop s a).1 = false) ∧
      (L.fin (L.loop s a).1 = false → (L.loop s a).2.1 = [])) ∨
    ((L.loop s a).2.2 = true ∧ L.valid (L.loop s a).1 = false ∧ L.fail (L.loop s a).1 = true) :=
  L.loop_cases (fun x => L.valid x = false ∧ L.fail x = false) (fun x => L.valid x = false ∧ L.fail x = true)
    (fun s c x hs _ => ⟨by rw [h.ok_valid, h.step_valid, hs.1], h.ok_fail s c x hs.2⟩)
    (fun s c hs _ => ⟨by rw [h.bad_valid, h.step_valid, hs.1], h.bad_fail _⟩) a s ⟨hv, hf⟩

theorem Ok.laws (h : L.Ok) : Laws1 L.parse L.valid L.fail where
  suffix := L.parse_suffix
  flag := by
    intro s a hv
    have := L.loop_cases (fun x => L.valid x = false) (fun x => L.valid x = false)
      (fun s c x hs _ => by rw [h.ok_valid, h.step_valid, hs]) (fun s c hs _ => by rw [h.bad_valid, h.step_valid, hs])
      a s hv
    simp only [parse]
    rcases this with ⟨e, _, _⟩ | ⟨e, hj⟩
    · simp only [e, Bool.false_eq_true, if_false, h.mark_valid]
    · simp only [e, if_true, hj]
  clean := by
    intro s a hf ht
    have := L.loop_cases (fun x => L.fail x = false) (fun _ => True) (fun s c x hs _ => h.ok_fail s c x hs)
      (fun _ _ _ _ => trivial) a s hf
    simp only [parse] at ht ⊢
    rcases this with ⟨e, hi, _⟩ | ⟨e, _⟩
    · simp only [e, Bool.false_eq_true, if_false, h.mark_fail, hi]
    · simp [e] at ht
  seq := by
    intro s a b hv hf
    simp only [parse, L.loop_append h.ok_rest a b s]
    rcases h.loop_flags a s hv hf with ⟨e, ⟨iv, ifl⟩, hrest⟩ | ⟨e, _, jf⟩
    · cases hfin : L.fin (L.loop s a).1 with
      | true => simp [e, hfin]
      | false =>
        have hm : L.mark (L.loop s a).1 false = (L.loop s a).1 := by rw [← iv]; exact h.mark_self _
        simp [e, hrest hfin, hm, ifl]
    · simp [e, jf]

/-- "finished" as `RL.done`, `SL.done`, `CH.done` spell it -/
theorem Ok.seqLaw (h : L.Ok) : SeqLaw L.parse (fun s => L.fail s || L.valid s || L.fin s) := by
  intro s a b hd
  simp only [Bool.or_eq_false_iff] at hd
  obtain ⟨⟨hf, hv⟩, _⟩ := hd
  rw [h.laws.seq s a b hv hf]
  have hfl := h.laws.flag s a hv
  simp only [parse] at hfl ⊢
  rcases h.loop_flags a s hv hf with ⟨e, ⟨iv, ifl⟩, _⟩ | ⟨e, _, jf⟩
  · cases hfin : L.fin (L.loop s a).1 with
    | true => simp [e, h.mark_valid]
    | false =>
      have hm : L.mark (L.loop s a).1 false = (L.loop s a).1 := by rw [← iv]; exact h.mark_self _
      simp [e, hfin, hm, ifl, iv]
  · simp [e, jf]

end Line

/-- `hnil`, `hcons`: the shape in which `tools/cxx2lean.py` emits `parse` (`Trans/RL`, `Trans/SL`, `Trans/CH`), the
    code after the loop inlined at its two exits -/
theorem Line.parse_unique {S : Type} (L : Line S) (G : S → Bytes → S × Bytes × Bool)
    (hnil : ∀ s, G s [] = (L.mark s (L.fin s), [], L.fin s))
    (hcons : ∀ s c cs, G s (c :: cs) =
      if L.fin s then (L.mark s true, c :: cs, true)
      else if (L.step s c).2 then G (L.ok (L.step s c).1 cs) cs else (L.bad (L.step s c).1, cs, false))
    (buf : Bytes) : ∀ s, G s buf = L.parse s buf := by
  induction buf with
  | nil => intro s; rw [hnil]; rfl
  | cons c cs ih =>
    intro s
    rw [hcons, Line.parse, Scan.loop]
    by_cases h : L.fin s = true
    · simp only [h, if_true, Bool.false_eq_true, if_false]
    · rw [if_neg h, if_neg h]
      generalize L.step s c = r
      obtain ⟨s', ok⟩ := r
      cases ok
      · rfl
      · rw [if_pos rfl, ih]
        rfl

def RL.line (cfg : Cfg) : Line RL where
  toScan := RL.scan cfg
  mark s v := { s with valid := v }
  valid := RL.valid
  fail := RL.fail

theorem RL.parse_eq (cfg : Cfg) : RL.parse cfg = (RL.line cfg).parse := by
  funext s buf
  simp only [RL.parse, Line.parse, RL.loop_eq]
  rfl

theorem RL.line_ok (cfg : Cfg) : (RL.line cfg).Ok where
  step_valid s c := (RL.parseChar_flags cfg s c).1

theorem RL.laws (cfg : Cfg) : Laws1 (RL.parse cfg) RL.valid RL.fail := by
  rw [RL.parse_eq]; exact (RL.line_ok cfg).laws

theorem RL.parse_seq (cfg : Cfg) : SeqLaw (RL.parse cfg) RL.done := by
  rw [RL.parse_eq]; exact (RL.line_ok cfg).seqLaw

theorem RL.parse_suffix (cfg : Cfg) : SuffixLaw (RL.parse cfg) := (RL.laws cfg).suffix

def SL.line (cfg : Cfg) : Line SL where
  toScan := SL.scan cfg
  mark s v := { s with valid := v }
  valid := SL.valid
  fail := SL.fail

theorem SL.parse_eq (cfg : Cfg) : SL.parse cfg = (SL.line cfg).parse := by
  funext s buf
  simp only [SL.parse, Line.parse, SL.loop_eq]
  rfl

theorem SL.line_ok (cfg : Cfg) : (SL.line cfg).Ok where
  step_valid s c := (SL.parseChar_flags cfg s c).1

theorem SL.laws (cfg : Cfg) : Laws1 (SL.parse cfg) SL.valid SL.fail := by
  rw [SL.parse_eq]; exact (SL.line_ok cfg).laws

theorem SL.parse_seq (cfg : Cfg) : SeqLaw (SL.parse cfg) SL.done := by
  rw [SL.parse_eq]; exact (SL.line_ok cfg).seqLaw

theorem SL.parse_suffix (cfg : Cfg) : SuffixLaw (SL.parse cfg) := (SL.laws cfg).suffix

def CH.line (cfg : Cfg) : Line CH where
  toScan := CH.scan cfg
  mark s v := { s with valid := v }
  valid := CH.valid
  fail := CH.fail

theorem CH.parse_eq (cfg : Cfg) : CH.parse cfg = (CH.line cfg).parse := by
  funext s buf
  simp only [CH.parse, Line.parse, CH.loop_eq]
  rfl

theorem CH.line_ok (cfg : Cfg) : (CH.line cfg).Ok where
  step_valid s c := (CH.parseChar_flags cfg s c).1
  ok_fail s c _ h := (CH.parseChar_flags cfg s c).2.trans h

theorem CH.laws (cfg : Cfg) : Laws1 (CH.parse cfg) CH.valid CH.fail := by
  rw [CH.parse_eq]; exact (CH.line_ok cfg).laws

theorem CH.parse_seq (cfg : Cfg) : SeqLaw (CH.parse cfg) CH.done := by
  rw [CH.parse_eq]; exact (CH.line_ok cfg).seqLaw

theorem CH.parse_suffix (cfg : Cfg) : SuffixLaw (CH.parse cfg) := (CH.laws cfg).suffix

end Via
