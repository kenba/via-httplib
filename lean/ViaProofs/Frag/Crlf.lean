import ViaModel.Cfg
/-
  The line end that closes the chunk data (`rx_chunk::parse` in chunk.hpp, flag `data_cr_`) and the blank line after the
  headers (`message_headers::parse` in headers.hpp, flag `blank_cr_`) are the same code: an optional CR, remembered
  across reads in a flag of the state, then LF, which completes the part.  Its laws, once.
-/
namespace Via

structure Eol (S : Type) where
  cr : S → Bool
  setCr : S → S
  mark : S → S

namespace Eol

variable {S : Type}

def lfStage (E : Eol S) (x : S) : Bytes → S × Bytes × Bool
  | [] => (x, [], false)
  | d :: ds => if d != 10 then (x, d :: ds, false) else (E.mark x, ds, true)

def crlf (E : Eol S) (strict : Bool) (x : S) : Bytes → S × Bytes × Bool
  | [] => (x, [], false)
  | c :: cs =>
    if !E.cr x && c == 13 then E.lfStage (E.setCr x) cs
    else if strict && !E.cr x then (x, c :: cs, false)
    else E.lfStage x (c :: cs)

variable (E : Eol S) (strict : Bool)

theorem crlf_nil (x : S) : E.crlf strict x [] = (x, [], false) := rfl

theorem lfStage_cons_done (x : S) (d : Byte) (ds : Bytes) :
    ((E.lfStage x (d :: ds)).2.2 || !(E.lfStage x (d :: ds)).2.1.isEmpty) = true := by
  simp only [lfStage]
  split <;> simp

theorem lfStage_cons_append (x : S) (d : Byte) (ds b : Bytes) :
    E.lfStage x (d :: ds ++ b) =
      ((E.lfStage x (d :: ds)).1, (E.lfStage x (d :: ds)).2.1 ++ b, (E.lfStage x (d :: ds)).2.2) := by
  simp only [List.cons_append, lfStage]
  split <;> simp

/-- `hno`: no input, a CR required, or not an LF -/
theorem crlf_ind (O : S × Bytes × Bool → Prop) (x : S) (a : Bytes) (hno : O (x, a, false))
    (hcr : ∀ c cs, a = c :: cs → O (E.setCr x, cs, false)) (hlf : ∀ c cs, a = c :: cs → O (E.mark x, cs, true))
    (hcrlf : ∀ c d ds, a = c :: d :: ds → O (E.mark (E.setCr x), ds, true)) : O (E.crlf strict x a) := by
  cases a with
  | nil => exact hno
  | cons c cs =>
    simp only [crlf]
    split
    · cases cs with
      | nil => exact hcr c [] rfl
      | cons d ds =>
        simp only [lfStage]
        split
        · exact hcr c _ rfl
        · exact hcrlf c d ds rfl
    · split
      · exact hno
      · simp only [lfStage]
        split
        · exact hno
        · exact hlf c cs rfl

theorem crlf_frame {α : Type} (f : S → α) (hc : ∀ x, f (E.setCr x) = f x) (hm : ∀ x, f (E.mark x) = f x)
    (x : S) (a : Bytes) : f (E.crlf strict x a).1 = f x :=
  E.crlf_ind strict (fun p => f p.1 = f x) x a rfl (fun _ _ _ => hc x) (fun _ _ _ => hm x)
    (fun _ _ _ _ => (hm _).trans (hc x))

theorem crlf_flag (valid : S → Bool) (hc : ∀ x, valid (E.setCr x) = valid x) (hm : ∀ x, valid (E.mark x) = true)
    (x : S) (a : Bytes) : valid (E.crlf strict x a).1 = (valid x || (E.crlf strict x a).2.2) :=
  E.crlf_ind strict (fun p => valid p.1 = (valid x || p.2.2)) x a (Bool.or_false _).symm
    (fun _ _ _ => (hc x).trans (Bool.or_false _).symm) (fun _ _ _ => (hm _).trans (Bool.or_true _).symm)
    (fun _ _ _ _ => (hm _).trans (Bool.or_true _).symm)

theorem crlf_rest (x : S) (a : Bytes) :
    (∃ pre, a = pre ++ (E.crlf strict x a).2.1) ∧
    ((E.crlf strict x a).2.2 = true → (E.crlf strict x a).2.1.length < a.length) :=
  E.crlf_ind strict (fun p => (∃ pre, a = pre ++ p.2.1) ∧ (p.2.2 = true → p.2.1.length < a.length)) x a
    ⟨⟨[], rfl⟩, nofun⟩ (fun c _ e => ⟨⟨[c], e⟩, nofun⟩) (fun c _ e => ⟨⟨[c], e⟩, fun _ => e ▸ Nat.lt_succ_self _⟩)
    (fun c d _ e => ⟨⟨[c, d], e⟩, fun _ => e ▸ Nat.lt_succ_of_lt (Nat.lt_succ_self _)⟩)

theorem crlf_incomplete (x : S) (c : Byte) (cs : Bytes)
    (h : ((E.crlf strict x (c :: cs)).2.2 || !(E.crlf strict x (c :: cs)).2.1.isEmpty) = false) :
    (E.crlf strict x (c :: cs)).1 = E.setCr x := by
  revert h
  exact E.crlf_ind strict (fun p => (p.2.2 || !p.2.1.isEmpty) = false → p.1 = E.setCr x) x (c :: cs) nofun
    (fun _ _ _ _ => rfl) (fun _ _ _ => nofun) (fun _ _ _ _ => nofun)

theorem crlf_append (hcr : ∀ x, E.cr (E.setCr x) = true) (x : S) (a b : Bytes) :
    E.crlf strict x (a ++ b) =
      (let r := E.crlf strict x a
       if r.2.2 || !r.2.1.isEmpty then (r.1, r.2.1 ++ b, r.2.2) else E.crlf strict r.1 b) := by
  have seen : ∀ (y : S) (z : Bytes), E.cr y = true → E.crlf strict y z = E.lfStage y z := by
    intro y z hy
    cases z with
    | nil => rfl
    | cons d ds => simp [crlf, hy]
  cases a with
  | nil => rfl
  | cons c cs =>
    by_cases h1 : (!E.cr x && c == 13) = true
    · simp only [List.cons_append, crlf, h1, if_true]
      cases cs with
      | nil => rw [List.nil_append]; exact (seen _ b (hcr x)).symm
      | cons d ds =>
        simp only [E.lfStage_cons_done (E.setCr x) d ds, if_true]
        exact E.lfStage_cons_append (E.setCr x) d ds b
    · by_cases h2 : (strict && !E.cr x) = true
      · simp only [List.cons_append, crlf, h1, h2, Bool.false_eq_true, if_false, if_true]
        rfl
      · simp only [List.cons_append, crlf, h1, h2, Bool.false_eq_true, if_false]
        have e1 := E.lfStage_cons_append x c cs b
        simp only [List.cons_append] at e1
        simp only [e1, E.lfStage_cons_done x c cs, if_true]

end Eol

end Via
