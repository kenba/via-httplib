import ViaModel.ReqRx
import ViaModel.RespRx
/-
  The four character-at-a-time parsers (`request_line`, `response_line`, `chunk_header`, `field_line`) run the same
  `while` loop around their `parse_char`: it is stated once (`Scan.loop`), with its invariant rule (`loop_cases`), and
  the loop of each parser is an instance.
-/
namespace Via

def Accepts {S : Type} (P : S → Prop) (r : S × Bool) : Prop := r.2 = true → P r.1

theorem accepts_false {S : Type} (P : S → Prop) (s : S) : Accepts P (s, false) := nofun

theorem accepts_true {S : Type} (P : S → Prop) (s : S) : Accepts P (s, true) ↔ P s :=
  ⟨fun h => h rfl, fun h _ => h⟩

/-- with the two lemmas above, `simp only` turns `Accepts P (step …)` into the list of the accepting paths of `step` -/
theorem accepts_ite {S : Type} (P : S → Prop) (c : Prop) [Decidable c] (a b : S × Bool) :
    Accepts P (if c then a else b) ↔ (c → Accepts P a) ∧ (¬c → Accepts P b) := by
  split <;> simp [*]

/-- `step` is `parse_char`; `ok` is given the rest of the input for the fold look-ahead of `field_line` -/
structure Scan (S : Type) where
  step : S → Byte → S × Bool
  fin : S → Bool
  ok : S → Bytes → S
  bad : S → S

namespace Scan

variable {S : Type}

/-- state, unconsumed rest, "a character was rejected" -/
def loop (L : Scan S) (s : S) : Bytes → S × Bytes × Bool
  | [] => (s, [], false)
  | c :: cs =>
    if L.fin s then (s, c :: cs, false)
    else
      let r := L.step s c
      if !r.2 then (L.bad r.1, cs, true)
      else loop L (L.ok r.1 cs) cs

variable (L : Scan S)

theorem loop_fin (s : S) (b : Bytes) (h : L.fin s = true) : L.loop s b = (s, b, false) := by
  cases b <;> simp [loop, h]

theorem loop_append (hok : ∀ s x y, L.ok s x = L.ok s y) (a b : Bytes) : ∀ s : S,
    L.loop s (a ++ b) =
      (let r := L.loop s a
       if r.2.2 || L.fin r.1 then (r.1, r.2.1 ++ b, r.2.2) else L.loop r.1 b) := by
  induction a with
  | nil =>
    intro s
    by_cases h : L.fin s = true
    · simp [loop, h, loop_fin]
    · simp [loop, h]
  | cons c cs ih =>
    intro s
    simp only [List.cons_append, loop]
    by_cases h : L.fin s = true
    · simp [h]
    · by_cases h2 : (L.step s c).2 = true
      · simp only [h, h2, hok _ (cs ++ b) cs]
        exact ih _
      · simp [h, h2]

theorem loop_suffix (buf : Bytes) : ∀ s : S, ∃ pre, buf = pre ++ (L.loop s buf).2.1 := by
  induction buf with
  | nil => intro s; exact ⟨[], rfl⟩
  | cons c cs ih =>
    intro s
    simp only [loop]
    split
    · exact ⟨[], rfl⟩
    · split
      · exact ⟨[c], rfl⟩
      · obtain ⟨p, hp⟩ := ih (L.ok (L.step s c).1 cs)
        exact ⟨c :: p, by rw [List.cons_append, ← hp]⟩

theorem loop_cases (I J : S → Prop)
    (hok : ∀ s c cs, I s → (L.step s c).2 = true → I (L.ok (L.step s c).1 cs))
    (hbad : ∀ s c, I s → (L.step s c).2 = false → J (L.bad (L.step s c).1)) (a : Bytes) : ∀ s : S, I s →
    ((L.loop s a).2.2 = false ∧ I (L.loop s a).1 ∧ (L.fin (L.loop s a).1 = false → (L.loop s a).2.1 = [])) ∨
    ((L.loop s a).2.2 = true ∧ J (L.loop s a).1) := by
  induction a with
  | nil => intro s hs; exact Or.inl ⟨rfl, hs, fun _ => rfl⟩
  | cons c cs ih =>
    intro s hs
    simp only [loop]
    split
    · next h => exact Or.inl ⟨rfl, hs, fun h' => absurd h (by simp [h'])⟩
    · split
      · next h2 => exact Or.inr ⟨rfl, hbad s c hs (by simpa using h2)⟩
      · next h2 => exact ih _ (hok s c cs hs (by simpa using h2))

end Scan

def RL.scan (cfg : Cfg) : Scan RL where
  step := RL.parseChar cfg
  fin s := s.st == .valid
  ok s _ := { s with fail := false }
  bad s := { s with fail := true }

theorem RL.loop_eq (cfg : Cfg) (s : RL) (buf : Bytes) : RL.loop cfg s buf = (RL.scan cfg).loop s buf := by
  induction buf generalizing s with
  | nil => rfl
  | cons c cs ih => simp only [RL.loop, Scan.loop, ih]; rfl

theorem RL.loop_of_valid (cfg : Cfg) (s : RL) (b : Bytes) (h : (s.st == .valid) = true) :
    RL.loop cfg s b = (s, b, false) := by
  rw [RL.loop_eq]; exact Scan.loop_fin _ s b h

theorem RL.parseChar_flags (cfg : Cfg) (s : RL) (c : Byte) :
    (s.parseChar cfg c).1.valid = s.valid ∧ (s.parseChar cfg c).1.fail = s.fail := by
  fun_cases RL.parseChar cfg s c <;> exact ⟨rfl, rfl⟩

theorem RL.parseChar_fail (cfg : Cfg) (s : RL) (c : Byte) :
    (s.parseChar cfg c).1.fail = s.fail :=
  (RL.parseChar_flags cfg s c).2

def SL.scan (cfg : Cfg) : Scan SL where
  step := SL.parseChar cfg
  fin s := s.st == .valid
  ok s _ := { s with fail := false }
  bad s := { s with fail := true }

theorem SL.loop_eq (cfg : Cfg) (s : SL) (buf : Bytes) : SL.loop cfg s buf = (SL.scan cfg).loop s buf := by
  induction buf generalizing s with
  | nil => rfl
  | cons c cs ih => simp only [SL.loop, Scan.loop, ih]; rfl

theorem SL.loop_of_valid (cfg : Cfg) (s : SL) (b : Bytes) (h : (s.st == .valid) = true) :
    SL.loop cfg s b = (s, b, false) := by
  rw [SL.loop_eq]; exact Scan.loop_fin _ s b h

theorem SL.crStep_flags (cfg : Cfg) (s : SL) (c : Byte) :
    (SL.crStep cfg s c).1.valid = s.valid ∧ (SL.crStep cfg s c).1.fail = s.fail := by
  fun_cases SL.crStep cfg s c <;> exact ⟨rfl, rfl⟩

theorem SL.parseChar_flags (cfg : Cfg) (s : SL) (c : Byte) :
    (s.parseChar cfg c).1.valid = s.valid ∧ (s.parseChar cfg c).1.fail = s.fail := by
  fun_cases SL.parseChar cfg s c <;> first | exact ⟨rfl, rfl⟩ | exact SL.crStep_flags cfg s c

theorem SL.parseChar_fail (cfg : Cfg) (s : SL) (c : Byte) :
    (s.parseChar cfg c).1.fail = s.fail :=
  (SL.parseChar_flags cfg s c).2

def CH.scan (cfg : Cfg) : Scan CH where
  step := CH.parseChar cfg
  fin s := s.st == .valid
  ok s _ := s
  bad s := { s with fail := true }

theorem CH.loop_eq (cfg : Cfg) (s : CH) (buf : Bytes) : CH.loop cfg s buf = (CH.scan cfg).loop s buf := by
  induction buf generalizing s with
  | nil => rfl
  | cons c cs ih => simp only [CH.loop, Scan.loop, ih]; rfl

theorem CH.loop_of_valid (cfg : Cfg) (s : CH) (b : Bytes) (h : (s.st == .valid) = true) :
    CH.loop cfg s b = (s, b, false) := by
  rw [CH.loop_eq]; exact Scan.loop_fin _ s b h

theorem CH.sizeStep_flags (cfg : Cfg) (s : CH) (c : Byte) :
    (CH.sizeStep cfg s c).1.valid = s.valid ∧ (CH.sizeStep cfg s c).1.fail = s.fail := by
  fun_cases CH.sizeStep cfg s c <;> exact ⟨rfl, rfl⟩

theorem CH.extStep_flags (cfg : Cfg) (s : CH) (c : Byte) :
    (CH.extStep cfg s c).1.valid = s.valid ∧ (CH.extStep cfg s c).1.fail = s.fail := by
  fun_cases CH.extStep cfg s c <;> exact ⟨rfl, rfl⟩

theorem CH.parseChar_flags (cfg : Cfg) (s : CH) (c : Byte) :
    (s.parseChar cfg c).1.valid = s.valid ∧ (s.parseChar cfg c).1.fail = s.fail := by
  -- the length check, which every case starts from
  have len : ∀ x : CH, (if x.length > cfg.maxLine then { x with st := .errLength } else x).valid = x.valid ∧
      (if x.length > cfg.maxLine then { x with st := .errLength } else x).fail = x.fail :=
    fun x => by split <;> exact ⟨rfl, rfl⟩
  have l := len { s with length := s.length + 1 }
  fun_cases CH.parseChar cfg s c <;> (try simp only [CH.sizeStep_flags, CH.extStep_flags]) <;> exact l

def FL.scan (cfg : Cfg) : Scan FL where
  step := FL.parseChar cfg
  fin s := s.st == .valid
  ok s cs := s.peek cs
  bad s := { s with fail := true }

/-- `FL.loop` returns "line complete" where the common loop returns "a character was rejected" -/
theorem FL.loop_eq (cfg : Cfg) (s : FL) (buf : Bytes) :
    FL.loop cfg s buf =
      (let r := (FL.scan cfg).loop s buf
       (r.1, r.2.1, !r.2.2 && r.1.st == .valid)) := by
  induction buf generalizing s with
  | nil => simp [FL.loop, Scan.loop]
  | cons c cs ih =>
    by_cases h : (s.st == HS.valid) = true
    · simp [FL.loop, Scan.loop, FL.scan, h]
    · by_cases h2 : (s.parseChar cfg c).2 = true
      · simp only [FL.loop, Scan.loop, h, h2, ih]
        simp [FL.scan, h, h2]
      · simp [FL.loop, Scan.loop, FL.scan, h, h2]

theorem FL.valueStep_keeps (cfg : Cfg) (s : FL) (c : Byte) :
    (FL.valueStep cfg s c).1.fail = s.fail ∧ (FL.valueStep cfg s c).1.length = s.length := by
  fun_cases FL.valueStep cfg s c <;> exact ⟨rfl, rfl⟩

theorem FL.parseChar_keeps (cfg : Cfg) (s : FL) (c : Byte) :
    (s.parseChar cfg c).1.fail = s.fail ∧ (s.parseChar cfg c).1.length = s.length + 1 := by
  have len : ∀ x : FL, (if x.length > cfg.maxLine then { x with st := .errLength } else x).fail = x.fail ∧
      (if x.length > cfg.maxLine then { x with st := .errLength } else x).length = x.length :=
    fun x => by split <;> exact ⟨rfl, rfl⟩
  have l := len { s with length := s.length + 1 }
  fun_cases FL.parseChar cfg s c <;> (try simp only [FL.valueStep_keeps]) <;> exact l

theorem FL.peek_keeps (s : FL) (b : Bytes) : (s.peek b).fail = s.fail ∧ (s.peek b).length = s.length := by
  fun_cases FL.peek s b <;> exact ⟨rfl, rfl⟩

end Via
