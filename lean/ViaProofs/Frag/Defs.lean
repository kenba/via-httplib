import ViaModel.ReqRx
import ViaModel.RespRx
/-
  Fragmentation ("sequential composition") law for the incremental parsers.

  A parser `P : S → Bytes → S × Bytes × Bool` (new state, unconsumed rest, returned bool) satisfies the
  law w.r.t. `done : S → Bool` when parsing `a ++ b` in one call is the same as parsing `a` and, if that
  call consumed all of `a` without reaching a final state, parsing `b` from the state it left.
  All parsers of the library keep their state between calls; this law is exactly what makes the result
  independent of where the network cuts the byte stream.
-/
namespace Via

def SeqLaw {S : Type} (P : S → Bytes → S × Bytes × Bool) (done : S → Bool) : Prop :=
  ∀ (s : S) (a b : Bytes), done s = false →
    P s (a ++ b) =
      (let r := P s a
       if done r.1 || !r.2.1.isEmpty then (r.1, r.2.1 ++ b, r.2.2) else P r.1 b)

/-- a parser never returns more than it was given: the rest is a suffix of the input -/
def SuffixLaw {S : Type} (P : S → Bytes → S × Bytes × Bool) : Prop :=
  ∀ (s : S) (buf : Bytes), ∃ pre, buf = pre ++ (P s buf).2.1

def RL.done (s : RL) : Bool := s.fail || s.valid || s.st == .valid
def SL.done (s : SL) : Bool := s.fail || s.valid || s.st == .valid
def CH.done (s : CH) : Bool := s.fail || s.valid || s.st == .valid
def MH.done (h : MH) : Bool := h.valid || h.field.fail
def CK.done (k : CK) : Bool := k.valid || k.hdr.fail || k.trailers.field.fail
def RQ.done (q : RQ) : Bool := q.valid || q.line.fail || q.headers.field.fail
def RP.done (q : RP) : Bool := q.valid || q.line.fail || q.headers.field.fail

end Via
