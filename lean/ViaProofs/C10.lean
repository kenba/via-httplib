import ViaProofs.ConnLemmas
/-
  C10 — lifecycle events are paired and the server forgets closed connections.

  `C10`: after EVERY history of script operations (accepts with any filter / handshake / endpoint outcome, read and
  write completions with any error, application actions, late aborted completions, server teardown) on a fresh
  server, for every connection: connected is signalled at most once, disconnected at most once and only after
  connected, nothing is signalled after disconnected, and the server's collections hold exactly the connections
  whose adaptor object is alive (retained = open).  No transition of the model raises: every function is total.
  "Nothing afterwards" covers EVERY application callback of the model — request, chunk, expect-continue, invalid-request
  and message-sent handlers: each of them goes through `World.noteEvent`, which counts a callback that follows the
  connection's disconnected event in `otherAfterDisc`, and the invariant keeps that counter at 0.  (This is where the
  receive loop's `is_held` test, added by the repair of "events are delivered for a connection after its disconnected
  event", is needed: without it the invariant is not preserved by `receiveLoop`.)  The proof also shows that the server
  holds an http_connection only for a connection whose handshake completed (`HeldConnected`), which is why a response
  sent from the receive loop can never end the session synchronously (`Sim.sendResponse_held`).
  Known finding C11-KF1 limits the "exactly once" direction: `close()` / the destructor drop connections without
  the disconnected event (the invariant therefore states `disconnectedSeen ≤ connectedSeen`).
-/
namespace Via
open Sim

def C10_statement : Prop :=
  ∀ (serverOptions : List String) (history : List (List String)),
    let w := history.foldl simOp (mkServer serverOptions)
    ∀ c ∈ w.conns,
      c.connectedSeen ≤ 1 ∧ c.disconnectedSeen ≤ c.connectedSeen ∧ c.otherAfterDisc = 0 ∧
      (c.connectedSeen = 0 → c.inHttp = false) ∧
      (c.inHttp = true → c.disconnectedSeen = 0 ∧ c.inComms = true) ∧
      (c.alive = true ↔ c.inComms = true)

theorem C10 : C10_statement := by
  intro ws hist w c hc
  obtain ⟨hinv, hset⟩ := history_invS ws hist
  have L := life_iff.2 (hinv c hc)
  exact ⟨L.seenOnce, L.discAfter, L.quiet, L.unseen, fun h => ⟨(L.held h).2.1, (L.held h).2.2.1⟩, hset c hc, L.commsAlive⟩

/-- a connection refused by the connection filter (`filter = 1`: reject all) is never created -/
theorem C10_filter_reject (w : World) (ws : List String) (hs : w.haveServer = true) (ha : w.acceptorOpen = true)
    (hf : w.opts.filter = 1) : (opAccept w ws).conns = w.conns := by
  unfold opAccept
  simp [hs, ha, hf, World.emit]

end Via
