import ViaModel.Conn
/-
  C20 — a configured idle timeout actually closes silent connections.

  In the model nothing reacts to the passage of time: the connection layer has no timer, the timeout is only
  passed to `setsockopt(SO_RCVTIMEO / SO_SNDTIMEO)`, which has no effect on a socket driven by asynchronous
  (non-blocking) operations.  That this is what the source does is an extracted fact; under it the property is
  FALSE of the model, which is what `C20_counterexample` states.  The real-socket run (net_driver) confirms it on
  the implementation: known finding C20-KF1.  If a timer is added to the connection code the extracted fact
  changes, this file stops checking, and the real-socket run becomes the oracle.
-/
namespace Via

theorem C20_no_timer_in_source : Gen.serverSideTimerUses = 0 ∧ Gen.rcvTimeoutSockoptUses = 2 := by decide

/-- passage of time is not an event of the connection layer -/
def tick (w : Sim.World) : Sim.World := w

def ticks : Nat → Sim.World → Sim.World
  | 0, w => w
  | n + 1, w => ticks n (tick w)

/-- whatever the state of a connection and however long the peer stays silent, nothing closes it -/
theorem C20_counterexample (w : Sim.World) (i : Nat) (n : Nat) :
    ((ticks n w).get i).sockOpen = (w.get i).sockOpen := by
  induction n generalizing w with
  | zero => rfl
  | succ k ih => simpa [ticks, tick] using ih w

end Via
