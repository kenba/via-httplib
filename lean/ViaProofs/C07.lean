import ViaProofs.C05
import ViaProofs.Rx.Loop
import ViaProofs.Rx.Stage
import ViaProofs.Rx.Resp
import ViaProofs.Rx.Closed
/-
  C07 — client-side response reception is faithful and fragmentation-invariant.

  The client's receiver shares the header and chunk parsers with the server (laws in `Frag/`).  This file lifts them
  to `response_receiver::receive`, exactly as `ViaProofs/C01.lean` does for requests:
  * `RS.receive_head_seq`      one `receive` call versus two while the response head is being received;
  * `C07.split`                the one-call fragmentation law of `Rx/Loop.lean` for `RS.receive`;
  * `C07_frag`                 for every byte stream whose single-read run is clean (nothing rejected, every byte
                               consumed) every partition into non-empty reads delivers exactly the same responses and
                               chunks (status, reason, version, header fields, body, chunk data, extensions, trailers):
                               the instance of `Rcv.Splits.frag` for the response receiver.

  The only read-dependent branch of `response_receiver::receive` — a response without Content-Length and bytes in the
  buffer — swallows the whole buffer and can never complete (`RS.afterHead_eq`), so a run through it does not end in
  the initial state: `RClean` excludes it.
-/
namespace Via

namespace C07

theorem RP_parse_valid (cfg : Cfg) (q : RP) (buf : Bytes) (hv : q.valid = false) :
    (RP.parse cfg q buf).1.valid = (RP.parse cfg q buf).2.2 :=
  (RP.laws cfg).flag q buf hv

theorem RP_not_done (q : RP) (hd : RP.done q = false) : q.valid = false ∧ RP.fail q = false := by
  simpa [RP.done_eq] using hd

end C07

/-- `http_client::receive_handler` applied to successive reads -/
def RS.feed (cfg : Cfg) (r : RS) : List Bytes → RS × List RDelivery
  | [] => (r, [])
  | rd :: rest =>
    let x := RS.readLoop cfg (rd.length + 1) r rd []
    let y := RS.feed cfg x.1 rest
    (y.1, x.2.2 ++ y.2)

/-- what a response / chunk handler can observe -/
structure RView where
  rx : Rx
  status : Nat
  reason : Bytes
  major : Byte
  minor : Byte
  fields : Fields
  body : Bytes
  chunkSize : Nat
  chunkExt : Bytes
  chunkData : Bytes
  trailers : Fields
deriving DecidableEq, Repr

def rviewOf (d : RDelivery) : RView :=
  let r := d.snapshot
  { rx := d.rx, status := r.response.line.status, reason := r.response.line.reason, major := r.response.line.major,
    minor := r.response.line.minor, fields := r.response.headers.fields, body := r.body,
    chunkSize := r.chunk.hdr.size, chunkExt := r.chunk.hdr.ext, chunkData := r.chunk.data,
    trailers := r.chunk.trailers.fields }

def rpayload (ds : List RDelivery) : List RView :=
  (ds.filter fun d => d.rx == .valid || d.rx == .chunk).map rviewOf

/-- `x.1 = {}` (every response is complete) excludes a response WITHOUT Content-Length and without chunked coding that
    has a body: its body is delimited by the close of the connection, and whether bytes that follow the head belong to
    it depends on whether they arrive in the same read (outside the property, see C05). -/
def RClean (cfg : Cfg) (bs : Bytes) : Prop :=
  let x := RS.readLoop cfg (bs.length + 1) {} bs []
  x.2.1 = [] ∧ (∀ d ∈ x.2.2, d.rx ≠ .invalid) ∧ x.1 = {}

def C07_frag_statement : Prop :=
  ∀ (cfg : Cfg) (bs : Bytes), RClean cfg bs →
    ∀ (ps : List Bytes), ps.flatten = bs → (∀ p ∈ ps, p ≠ []) →
      rpayload (RS.feed cfg {} ps).2 = rpayload (RS.feed cfg {} [bs]).2

namespace C07

theorem CK_parse_valid (cfg : Cfg) (k : CK) (x : Bytes) (hv : k.valid = false) :
    (CK.parse cfg k x).1.valid = (CK.parse cfg k x).2.2 :=
  (CK.laws cfg).flag k x hv

end C07

theorem RS.receive_head_seq (cfg : Cfg) (r : RS) (a b : Bytes)
    (hv : r.response.valid = false) (hd : RP.done r.response = false)
    (hinc : RP.done (RP.parse cfg r.response a).1 = false ∧ (RP.parse cfg r.response a).2.1 = []) :
    RS.receive cfg r a = ({ r with response := (RP.parse cfg r.response a).1 }, [], .incomplete) ∧
    RS.receive cfg r (a ++ b) = RS.receive cfg { r with response := (RP.parse cfg r.response a).1 } b := by
  obtain ⟨hv1, hf1⟩ := C07.RP_not_done _ hinc.1
  have hp := (C07.RP_parse_valid cfg r.response a hv).symm.trans hv1
  have hseq := (RP.laws cfg).seq r.response a b hv (C07.RP_not_done _ hd).2
  simp only [hp, hf1, hinc.2, List.isEmpty_nil, Bool.not_true, Bool.or_self, Bool.false_eq_true, if_false] at hseq
  rw [RS.receive_head cfg r a hv, RS.receive_head cfg r (a ++ b) hv, RS.receive_head cfg _ b hv1, hseq]
  simp [hp, hinc.2, hf1]

theorem RS.receive_head_fail_seq (cfg : Cfg) (r : RS) (a b : Bytes)
    (hv : r.response.valid = false) (hd : RP.done r.response = false)
    (hfail : (RP.parse cfg r.response a).2.2 = false ∧
             ((RP.parse cfg r.response a).1.fail = true ∨ (RP.parse cfg r.response a).2.1 ≠ [])) :
    (RS.receive cfg r a).2.2 = .invalid ∧
    RS.receive cfg r (a ++ b) = ((RS.receive cfg r a).1, (RS.receive cfg r a).2.1 ++ b, .invalid) := by
  obtain ⟨h1, h2⟩ := hfail
  have hcond : (RP.parse cfg r.response a).2.1 ≠ [] ∨ (RP.parse cfg r.response a).1.fail = true := h2.symm
  have hcond' : (RP.parse cfg r.response a).2.1 ++ b ≠ [] ∨ (RP.parse cfg r.response a).1.fail = true :=
    hcond.imp (fun h e => h (List.append_eq_nil_iff.mp e).1) id
  have hseq := (RP.laws cfg).seq r.response a b hv (C07.RP_not_done _ hd).2
  rw [if_pos (by rcases hcond with h | h <;> simp [h])] at hseq
  rw [RS.receive_head cfg r (a ++ b) hv, RS.receive_head cfg r a hv, hseq]
  simp only [h1, Bool.false_eq_true, if_false, if_pos hcond, if_pos hcond']
  exact ⟨trivial, trivial⟩

namespace C07

open RS (chunkParse reset lengthless)

theorem chunkParse_split (cfg : Cfg) (r : RS) (x b : Bytes) (hd : CK.done r.chunk = false) :
    chunkParse cfg r (x ++ b) = ((chunkParse cfg r x).1, (chunkParse cfg r x).2.1 ++ b, (chunkParse cfg r x).2.2) ∨
    (chunkParse cfg r x = ({ r with chunk := (CK.parse cfg r.chunk x).1 }, [], .incomplete) ∧
      (CK.parse cfg r.chunk x).1.valid = false ∧
      chunkParse cfg r (x ++ b) = chunkParse cfg { r with chunk := (CK.parse cfg r.chunk x).1 } b) := by
  unfold chunkParse
  rcases (CK.laws cfg).cases CK.done_eq r.chunk x b hd with ⟨h1, h2⟩ | ⟨h1, h2, h3, h4, _, h6⟩
  · left
    rw [h2]
    dsimp only
    rw [clears_append b h1]
    let R (q p : RS × Bytes × Rx) : Prop := q = (p.1, p.2.1 ++ b, p.2.2)
    exact ite_rel R rfl (ite_rel R rfl rfl)
  · right
    rw [h6]
    refine ⟨?_, h4, rfl⟩
    simp [h1, h2, h3, h4]

/-- in a reachable state a head or chunk that is not complete has not failed either -/
def Extra (r : RS) : Prop :=
  (r.response.valid = false → RP.done r.response = false) ∧ (r.chunk.valid = false → CK.done r.chunk = false)

def Inv (cfg : Cfg) (r : RS) : Prop := RS.Ok cfg r ∧ Extra r

theorem extra_init : Extra {} := ⟨fun _ => rfl, fun _ => rfl⟩

theorem inv_init (cfg : Cfg) : Inv cfg {} := ⟨RS.ok_init cfg, extra_init⟩

theorem reset_done (r : RS) (hC : r.chunk.valid = false → CK.done r.chunk = false) : CK.done (reset r).chunk = false :=
  RS.reset_cases (P := fun x => CK.done x.chunk = false) r rfl hC

theorem extra_closed (cfg : Cfg) : RS.Closed cfg Extra where
  fresh := extra_init
  head r buf h hv hk := ⟨(RP.laws cfg).kept_done RP.done_eq r.response buf hv hk, h.2⟩
  body _ _ h := h
  newChunk _ h := ⟨h.1, fun _ => rfl⟩
  chunk r buf h hv hk := ⟨h.1, (CK.laws cfg).kept_done CK.done_eq r.chunk buf hv hk⟩

theorem inv_step (cfg : Cfg) (r : RS) (buf : Bytes) (h : Inv cfg r) :
    Inv cfg (RS.afterResult (RS.receive cfg r buf).1 (RS.receive cfg r buf).2.2) :=
  ⟨RS.ok_step cfg r buf h.1, (extra_closed cfg).next r buf h.2⟩

/-- the law `Rcv.Splits.split` in the form it has for this receiver: the second alternative is a call that only stores
    what it was given -/
def Split (cfg : Cfg) (q p : RS × Bytes × Rx) (b : Bytes) : Prop :=
  q = (p.1, p.2.1 ++ b, p.2.2) ∨ (p.2.2 = .incomplete ∧ p.2.1 = [] ∧ q = RS.receive cfg p.1 b)

theorem afterHead_split (cfg : Cfg) (r : RS) (rp : Bool) (x b : Bytes) (hv : r.response.valid = true) (hb : b ≠ [])
    (hle : r.response.headers.isChunked = false → lengthless r = false →
      0 ≤ r.response.headers.contentLength → (r.body.length : Int) ≤ r.response.headers.contentLength)
    (hck : r.chunk.valid = false → CK.done r.chunk = false)
    (hinv : (RS.afterHead cfg r rp (x ++ b)).2.2 ≠ .invalid)
    (hfin : (RS.afterHead cfg r rp (x ++ b)).2.1 = [] →
      RS.afterResult (RS.afterHead cfg r rp (x ++ b)).1 (RS.afterHead cfg r rp (x ++ b)).2.2 = {}) :
    Split cfg (RS.afterHead cfg r rp (x ++ b)) (RS.afterHead cfg r rp x) b := by
  cases hc : r.response.headers.isChunked
  · by_cases hcl : r.response.headers.contentLength < 0
    · exact absurd (by rw [RS.afterHead_neg cfg r rp _ hc hcl]) hinv
    cases hL : lengthless r
    · rw [RS.afterHead_known cfg r rp _ hc hcl hL, RS.afterHead_known cfg r rp _ hc hcl hL]
      by_cases hshort : (r.body.length : Int) + x.length < r.response.headers.contentLength
      · right
        rw [accum_short r x hshort, accum_short_append r x b hshort]
        exact ⟨rfl, rfl, (RS.receive_accum cfg { r with body := r.body ++ x } b hv hc hcl hL).symm⟩
      · obtain ⟨hl1, hl2⟩ := accum_long r x b (hle hc hL (Int.not_lt.mp hcl)) (Int.not_lt.mp hshort)
        left
        rw [hl2, hl1]
    · -- no Content-Length and bytes in the buffer: the response can never complete
      exfalso
      rw [RS.afterHead_lengthless cfg r rp _ hc hL (by simp [hb])] at hinv hfin
      by_cases hov : ((x ++ b).length : Int) > (cfg.maxContent : Int) - r.body.length
      · rw [if_pos hov] at hinv; exact hinv rfl
      · rw [if_neg hov] at hfin
        have := congrArg RS.body (hfin rfl)
        simp only [RS.afterResult, List.append_eq_nil_iff] at this
        exact hb this.2.2
  · rw [RS.afterHead_chunked cfg r rp _ hc, RS.afterHead_chunked cfg r rp _ hc]
    refine ite_rel (Split cfg · · b) (Or.inl rfl) ?_
    have f1 := (RS.reset_facts r).1
    rcases chunkParse_split cfg (reset r) x b (reset_done r hck) with h | ⟨h1, h2, h3⟩
    · exact Or.inl h
    · right
      rw [h1, h3]
      exact ⟨rfl, rfl, (RS.receive_chunk cfg _ b (f1 ▸ hv) (f1 ▸ hc) h2).symm⟩

theorem split (cfg : Cfg) (r : RS) (a b : Bytes) (hI : Inv cfg r) (hb : b ≠ [])
    (hinv : (RS.receive cfg r (a ++ b)).2.2 ≠ .invalid)
    (hfin : (RS.receive cfg r (a ++ b)).2.1 = [] →
      RS.afterResult (RS.receive cfg r (a ++ b)).1 (RS.receive cfg r (a ++ b)).2.2 = {}) :
    Split cfg (RS.receive cfg r (a ++ b)) (RS.receive cfg r a) b := by
  obtain ⟨⟨ok1, _, ok3⟩, hA, hC⟩ := hI
  cases hv : r.response.valid
  · have hval := RP_parse_valid cfg r.response a hv
    rcases (RP.laws cfg).cases RP.done_eq r.response a b (hA hv) with ⟨h1, h2⟩ | ⟨_, h2, _, _, h5, _⟩
    · cases hbo : (RP.parse cfg r.response a).2.2
      · -- the head is rejected inside `a`
        have e := (RS.receive_head_fail_seq cfg r a b hv (hA hv) ⟨hbo, (h1.resolve_left (by simp [hbo])).symm⟩).2
        exact absurd (by rw [e]) hinv
      · -- the head is completed inside `a`
        rw [RS.receive_head cfg r a hv, if_pos hbo]
        rw [RS.receive_head cfg r (a ++ b) hv, h2, if_pos hbo] at hinv hfin ⊢
        refine afterHead_split cfg _ true _ b (hval.trans hbo) hb (fun _ _ h0 => ?_) hC hinv hfin
        show ((r.body.length : Nat) : Int) ≤ _
        rw [ok3 hv]; exact h0
    · obtain ⟨e1, e2⟩ := RS.receive_head_seq cfg r a b hv (hA hv) ⟨h5, h2⟩
      rw [e1]
      exact Or.inr ⟨rfl, rfl, e2⟩
  · rw [RS.receive_valid cfg r a hv]
    rw [RS.receive_valid cfg r (a ++ b) hv] at hinv hfin ⊢
    exact afterHead_split cfg r false a b hv hb (fun hc hL _ => Int.le_of_lt ((ok1 hv hc).1 hL)) hC hinv hfin

end C07

theorem RS.feed_eq (cfg : Cfg) (ps : List Bytes) : ∀ (r : RS),
    RS.feed cfg r ps = (RS.rcv cfg).feed RDelivery.mk r ps := by
  induction ps with
  | nil => intro r; rfl
  | cons p ps ih => intro r; simp only [RS.feed, Rcv.feed, RS.readLoop_eq, ih]

namespace C07

def ev (d : RDelivery) : Rx × RS := (d.rx, d.snapshot)

def view (x : Rx) (s : RS) : RView := rviewOf { rx := x, used := 0, snapshot := s }

theorem payload_eq_pay (ds : List RDelivery) : rpayload ds = Rcv.pay view (ds.map ev) := by
  simp only [rpayload, Rcv.pay, List.filter_map, List.map_map]
  rfl

theorem splits (cfg : Cfg) : Rcv.Splits (RS.rcv cfg) (Inv cfg) Eq (· = {}) view where
  step := inv_step cfg
  progress r buf hI := RS.receive_progress cfg r buf hI.1
  sim_receive _ _ _ h := h ▸ ⟨rfl, rfl⟩
  sim_after _ _ _ h := h ▸ rfl
  sim_view _ _ _ h := h ▸ rfl
  sim_good _ _ h g := h ▸ g
  split r a b hI hb hinv hfin := by
    dsimp only [RS.rcv, Rcv.next] at hinv hfin ⊢
    rcases split cfg r a b hI hb hinv hfin with h | ⟨h1, h2, h3⟩
    · exact Or.inl h
    · refine Or.inr ⟨Or.inl h1, ?_⟩
      rw [h1, h2, h3]
      exact ⟨rfl, rfl⟩

end C07

theorem C07_frag : C07_frag_statement := by
  intro cfg bs hclean ps hps _
  simp only [RClean, RS.readLoop_eq] at hclean
  rw [C07.payload_eq_pay, C07.payload_eq_pay, RS.feed_eq, RS.feed_eq]
  exact ((C07.splits cfg).frag RDelivery.mk C07.ev (fun _ _ _ => rfl) (C07.inv_init cfg) bs hclean.1 hclean.2.1
    hclean.2.2 ps hps).2

/-- the hypothesis of `C07_frag` is satisfiable by a non-trivial stream: a response with a body, a chunked response
    with a chunk extension and a trailer, and a response with an empty body -/
example : RClean {} (b!"HTTP/1.1 200 OK\r\nContent-Length: 3\r\n\r\nabcHTTP/1.1 200 OK\r\nTransfer-Encoding: chunked\r\n\r\n2;x=1\r\nhi\r\n0\r\nT: v\r\n\r\nHTTP/1.1 204 None\r\nContent-Length: 0\r\n\r\n") := by
  unfold RClean
  decide +kernel

example : rpayload (RS.feed {} {} [b!"HTTP/1.1 200 OK\r\nContent-Le", b!"ngth: 3\r\n\r\na",
      b!"bcHTTP/1.1 204 None\r", b!"\nContent-Length: 0\r\n\r\n"]).2 =
    rpayload (RS.feed {} {}
      [b!"HTTP/1.1 200 OK\r\nContent-Length: 3\r\n\r\nabcHTTP/1.1 204 None\r\nContent-Length: 0\r\n\r\n"]).2 :=
  C07_frag {} _ (by unfold RClean; decide +kernel) _ rfl (by decide)

end Via
