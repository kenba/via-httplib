import ViaProofs.ConnLemmas
/-
  C09 — connections close exactly when HTTP says so, never before the response is out.

  Decision logic of the close path, for every world, connection, payload and both adaptor flavours:
  * `C09_close_deferred`   the send of a response to a NON keep-alive request starts the write and only RECORDS the
                           close (`disconnect_pending_`); no shutdown is issued while the write is in flight
                           (this is the repaired `shutdown()` → `disconnect()`);
  * `C09_close_on_completion` the completion of that write performs the shutdown;
  * `C09_keepalive_stays_open` a keep-alive response schedules nothing, and its completion only signals SENT
                           (`C09_keepalive_completion`);
  * `C09_keepalive_iff`    what "keep-alive" means: HTTP version above 1.0 and no `close` (any case, anywhere in the
                           value) in Connection.
  The bytes of the response are resolved when the adaptor completes the write, after which (and only then) the
  shutdown happens, so no announced byte can be cut off by it — whatever the size (the model has no size limit) and
  whatever the progress schedule (completion is an event of the environment).
-/
namespace Via
open Sim

theorem C09_close_deferred (fuel : Nat) (w : World) (i : Nat) (bufs : List Buf) (hi : i < w.conns.length)
    (halive : (w.get i).alive = true) (hc : (w.get i).connected = true) (ht : (w.get i).transmitting = false)
    (hss : (w.get i).shutdownSent = false) (hka : (w.get i).rx.request.keepAlive = false) :
    let r := httpSendTail (fuel + 2) w i bufs false
    r.2 = false ∧ (r.1.get i).disconnectPending = true ∧ (r.1.get i).shutdownSent = false ∧
    (r.1.get i).writes = (w.get i).writes ++ [bufs] := by
  obtain ⟨h1, h2⟩ := sendTail_idle fuel bufs false halive hc ht
  simp [h1, h2, hka, hss]

theorem C09_no_shutdown_while_writing (fuel : Nat) (w : World) (i : Nat) (h : (w.get i).transmitting = true) :
    disconnectConn (fuel + 1) w i = w.upd i fun c => { c with disconnectPending := true } := by
  simp [disconnectConn, h]

theorem C09_close_on_completion (fuel : Nat) (w : World) (i : Nat)
    (halive : (w.get i).alive = true) (hss : (w.get i).shutdownSent = false)
    (hdp : (w.get i).disconnectPending = true) :
    writeCallback (fuel + 1) w i none = shutdownConn fuel w i := by
  simp [writeCallback, halive, hss, hdp]

theorem C09_keepalive_stays_open (fuel : Nat) (w : World) (i : Nat) (bufs : List Buf) (hi : i < w.conns.length)
    (halive : (w.get i).alive = true) (hc : (w.get i).connected = true) (ht : (w.get i).transmitting = false)
    (hka : (w.get i).rx.request.keepAlive = true) :
    let r := httpSendTail (fuel + 2) w i bufs false
    r.2 = true ∧ (r.1.get i).disconnectPending = (w.get i).disconnectPending ∧
    (r.1.get i).shutdownSent = (w.get i).shutdownSent := by
  obtain ⟨h1, h2⟩ := sendTail_idle fuel bufs false halive hc ht
  simp [h1, h2, hka]

theorem C09_keepalive_completion (fuel : Nat) (w : World) (i : Nat)
    (halive : (w.get i).alive = true) (hss : (w.get i).shutdownSent = false)
    (hdp : (w.get i).disconnectPending = false) :
    writeCallback (fuel + 1) w i none =
      commsEvent fuel (w.upd i fun c => { c with transmitting := false }) i 1 := by
  simp [writeCallback, halive, hss, hdp]

/-- TRACE LEVEL (every history on a fresh server, every connection, both adaptor flavours): at most one write is in
    flight, and a connection that is not `transmitting_` has NO write in flight.  Hence `disconnect()` — which shuts
    down at once only when `transmitting_` is false and otherwise only records the request
    (`C09_no_shutdown_while_writing`) — never shuts a connection down over a response that is still being written, and
    when the completion of a write performs the recorded shutdown (`C09_close_on_completion`) that write was the only
    one in flight. -/
theorem C09_no_truncation (serverOptions : List String) (history : List (List String)) (i : Nat) :
    let w := history.foldl simOp (mkServer serverOptions)
    (w.get i).writes.length ≤ 1 ∧ ((w.get i).transmitting = false → (w.get i).writes = []) := by
  intro w
  obtain ⟨h1, h2, _⟩ := winv_get (history_winv serverOptions history) i
  exact ⟨h1, fun ht => Decidable.byContradiction fun hne => by rw [h2 hne] at ht; cases ht⟩

/-- … so the library-initiated shutdown of a reachable connection that is not transmitting happens with nothing in flight -/
theorem C09_disconnect_shuts_down_idle_only (serverOptions : List String) (history : List (List String)) (i fuel : Nat) :
    let w := history.foldl simOp (mkServer serverOptions)
    (disconnectConn (fuel + 1) w i = shutdownConn fuel w i ∧ (w.get i).writes = []) ∨
    (disconnectConn (fuel + 1) w i = w.upd i fun c => { c with disconnectPending := true }) := by
  intro w
  cases ht : (w.get i).transmitting with
  | false =>
    left
    exact ⟨by simp [disconnectConn, ht], (C09_no_truncation serverOptions history i).2 ht⟩
  | true => right; exact C09_no_shutdown_while_writing fuel w i ht

theorem C09_keepalive_iff (q : RQ) :
    q.keepAlive = true ↔
      (q.line.isHttp10OrEarlier = false ∧
       ((q.headers.fields.find (b!"connection")).isEmpty = true ∨
        containsSub (b!"close") (lowerBytes (q.headers.fields.find (b!"connection"))) = false)) := by
  dsimp only [RQ.keepAlive, MH.closeConnection]
  generalize q.line.isHttp10OrEarlier = x
  generalize (q.headers.fields.find (b!"connection")).isEmpty = e
  generalize containsSub (b!"close") (lowerBytes (q.headers.fields.find (b!"connection"))) = s
  cases x <;> cases e <;> cases s <;> decide

end Via
