import ViaModel.Bytes
/-
  Pushing a run of input through a recursive consumer.  `L` is any function of a state and the input that is
  left (`RL.loop cfg`, `FL.loop cfg`, `MH.fresh cfg`, …); `g pre` is the state after the prefix `pre` of the run.
-/
namespace Via

/-- the one-step premise sees the rest of the input (`suf`, `tail`), so a consumer with look-ahead (`FL.peek`) is
    covered -/
theorem run_segments {α S R : Type} (L : S → Bytes → R) (enc : α → Bytes) (g : List α → S) (xs : List α) (tail : Bytes)
    (step : ∀ pre x suf, xs = pre ++ x :: suf →
      L (g pre) (enc x ++ (suf.flatMap enc ++ tail)) = L (g (pre ++ [x])) (suf.flatMap enc ++ tail)) :
    L (g []) (xs.flatMap enc ++ tail) = L (g xs) tail := by
  suffices h : ∀ suf pre, xs = pre ++ suf → L (g pre) (suf.flatMap enc ++ tail) = L (g xs) tail from h xs [] rfl
  intro suf
  induction suf with
  | nil => intro pre e; simp [e]
  | cons x suf ih =>
    intro pre e
    rw [List.flatMap_cons, List.append_assoc, step pre x suf e]
    exact ih (pre ++ [x]) (by simp [e])

theorem run_bytes {S R : Type} (L : S → Bytes → R) (g : Bytes → S) (run tail : Bytes)
    (step : ∀ pre c suf, run = pre ++ c :: suf → L (g pre) (c :: (suf ++ tail)) = L (g (pre ++ [c])) (suf ++ tail)) :
    L (g []) (run ++ tail) = L (g run) tail := by
  have := run_segments L (fun c => [c]) g run tail (by simpa using step)
  simpa using this

theorem run_pos {α : Type} {run pre suf : List α} {c : α} (e : run = pre ++ c :: suf) :
    c ∈ run ∧ pre.length + 1 ≤ run.length ∧ (pre = [] → run.head? = some c) := by
  subst e
  exact ⟨by simp, by simp, fun h => by simp [h]⟩

end Via
