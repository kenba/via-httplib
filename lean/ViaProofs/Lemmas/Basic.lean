import ViaModel.Bytes
/-
  `findByte` (the model of `std::string::find(char)`): what a found index says about the string, and the converse.
-/
namespace Via

theorem findByte_some {b : Byte} {s : Bytes} {i : Nat} (h : findByte b s = some i) :
    ∃ hi : i < s.length, s[i] = b ∧ b ∉ s.take i := by
  unfold findByte at h
  dsimp only at h
  split at h <;> cases h
  next hlt =>
  refine ⟨hlt, by simpa using List.findIdx_getElem (w := hlt), fun hm => ?_⟩
  obtain ⟨j, hj, hjv⟩ := List.mem_take_iff_getElem.1 hm
  have := List.not_of_lt_findIdx (show j < List.findIdx (· == b) s by omega)
  simp at this
  exact this hjv

theorem findByte_lt {b : Byte} {s : Bytes} {i : Nat} (h : findByte b s = some i) : i < s.length :=
  (findByte_some h).1

theorem findByte_spec (b : Byte) (s : Bytes) (i : Nat) (h : findByte b s = some i) :
    s = s.take i ++ [b] ++ s.drop (i + 1) ∧ b ∉ s.take i := by
  obtain ⟨hi, e, hn⟩ := findByte_some h
  refine ⟨?_, hn⟩
  rw [List.append_assoc, List.singleton_append, ← e, ← List.drop_eq_getElem_cons hi, List.take_append_drop]

theorem findByte_none (b : Byte) (s : Bytes) (h : findByte b s = none) : b ∉ s := by
  unfold findByte at h
  simp only at h
  split at h
  · cases h
  · rename_i hge
    intro hm
    exact hge (List.findIdx_lt_length.2 ⟨b, hm, by simp⟩)

theorem findByte_append (b : Byte) (u rest : Bytes) (hu : b ∉ u) :
    findByte b (u ++ b :: rest) = some u.length := by
  have hu' : u.findIdx (· == b) = u.length :=
    List.findIdx_eq_length.2 fun x hx => beq_eq_false_iff_ne.2 fun e => hu (e ▸ hx)
  simp [findByte, List.findIdx_append, hu', List.findIdx_cons]

end Via
