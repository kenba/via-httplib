import ViaModel.Headers
/-
  The byte classes as sets of numbers, so that a relation between classes (disjoint, included) is
  `simp only [← Bool.not_eq_true, isX_iff, isY_iff]; omega`.
-/
namespace Via

theorem isBlank_iff (c : Byte) : isBlank c = true ↔ c.toNat = 32 ∨ c.toNat = 9 := by
  simp [isBlank, ← UInt8.toNat_inj]

theorem isEol_iff (c : Byte) : isEol c = true ↔ c.toNat = 13 ∨ c.toNat = 10 := by
  simp [isEol, ← UInt8.toNat_inj]

theorem isUpper_iff (c : Byte) : isUpper c = true ↔ 65 ≤ c.toNat ∧ c.toNat ≤ 90 := by
  simp [isUpper, UInt8.le_iff_toNat_le]

theorem isDigit_iff (c : Byte) : isDigit c = true ↔ 48 ≤ c.toNat ∧ c.toNat ≤ 57 := by
  simp [isDigit, UInt8.le_iff_toNat_le]

theorem isXDigit_iff (c : Byte) : isXDigit c = true ↔
    (48 ≤ c.toNat ∧ c.toNat ≤ 57) ∨ (65 ≤ c.toNat ∧ c.toNat ≤ 70) ∨ (97 ≤ c.toNat ∧ c.toNat ≤ 102) := by
  simp [isXDigit, isDigit, UInt8.le_iff_toNat_le, or_assoc]

theorem isGraph_iff (c : Byte) : isGraph c = true ↔ 33 ≤ c.toNat ∧ c.toNat ≤ 126 := by
  simp [isGraph, UInt8.le_iff_toNat_le]

theorem digit_not_eol_blank (c : Byte) : isDigit c = true → isEol c = false ∧ isBlank c = false := by
  simp only [← Bool.not_eq_true, isDigit_iff, isEol_iff, isBlank_iff]; omega

theorem xdigit_not_blank (c : Byte) : isXDigit c = true → isBlank c = false := by
  simp only [← Bool.not_eq_true, isXDigit_iff, isBlank_iff]; omega

theorem graph_not_eol_blank (c : Byte) : isGraph c = true → isEol c = false ∧ isBlank c = false := by
  simp only [← Bool.not_eq_true, isGraph_iff, isEol_iff, isBlank_iff]; omega

end Via
