import ViaProofs.Rx.Closed
import ViaProofs.Frag.Compose
/-
  C06 — per-connection buffering is bounded by the configured limits.

  `retained r` is everything the request receiver stores for a connection; `bound cfg` is a formula in the
  configured limits.  `C06`: for EVERY byte stream, however long and however fragmented, and whether or not the
  application's handler clears the receiver, the receiver never retains more than `bound cfg` bytes between two
  `receive` calls.  (With the unrepaired `message_headers` this was false: `":\r\n"` repeated grows one header
  value without limit.)
-/
namespace Via

def fieldsBytes (fs : Fields) : Nat := (fs.map fun p => p.1.length + p.2.length).sum

def retained (r : RR) : Nat :=
  r.request.line.method.length + r.request.line.uri.length +
  fieldsBytes r.request.headers.fields +
  (r.request.headers.field.name.length + r.request.headers.field.value.length) +
  r.body.length +
  r.chunk.data.length + r.chunk.hdr.hexSize.length + r.chunk.hdr.ext.length +
  fieldsBytes r.chunk.trailers.fields +
  (r.chunk.trailers.field.name.length + r.chunk.trailers.field.value.length)

/-- the `+ maxHdrNum` terms are the separators that join repeated fields -/
def bound (cfg : Cfg) : Nat :=
  cfg.maxMethod + cfg.maxUri + 2 * (cfg.maxHdrLen + cfg.maxHdrNum + cfg.maxLine) +
  cfg.maxContent + cfg.maxChunk + Gen.maxSizeDigits + cfg.maxLine

/-- the states a receiver can be in between two `receive` calls of a connection: the initial state, the state
    returned by `receive` (what a handler sees), that state after the server's reaction, and any of these after the
    `clear()` or `set_continue_sent()` of `http_connection::send` -/
inductive Reach (cfg : Cfg) : RR → Prop
  | init : Reach cfg {}
  | recv (r : RR) (buf : Bytes) : Reach cfg r → Reach cfg (RR.receive cfg r buf).1
  | react (r : RR) (buf : Bytes) : Reach cfg r →
      Reach cfg (RR.afterResult cfg (RR.receive cfg r buf).1 (RR.receive cfg r buf).2.2)
  | cleared (r : RR) : Reach cfg r → Reach cfg r.clear
  | continued (r : RR) : Reach cfg r → Reach cfg { r with continueSent := true }

def C06_statement : Prop :=
  ∀ (cfg : Cfg) (r : RR), 3 ≤ cfg.maxMethod → Reach cfg r → retained r ≤ bound cfg

namespace C06

/-
  Each parser state has its `Good…`: what it stores is within the limits.  A `parse` call keeps it unless its outcome is
  one after which the receiver is cleared (`Kept`), so the receiver's `Good` is closed under what `receive` does.
-/

def GoodRL (cfg : Cfg) (s : RL) : Prop := s.method.length ≤ cfg.maxMethod ∧ s.uri.length ≤ cfg.maxUri

theorem RL_parseChar_good (cfg : Cfg) (s : RL) (c : Byte) (h : GoodRL cfg s) :
    Accepts (GoodRL cfg) (RL.parseChar cfg s c) := by
  fun_cases RL.parseChar cfg s c <;> first | exact accepts_false _ _ | exact fun _ => h | skip
  -- left: the two steps that store a byte, each behind the check of its limit
  · next hm => exact fun _ => ⟨Nat.le_of_not_gt hm, h.2⟩
  · next hu => exact fun _ => ⟨h.1, Nat.le_of_not_gt hu⟩

theorem RL_parse_good (cfg : Cfg) (s : RL) (buf : Bytes) (h : GoodRL cfg s)
    (hk : Kept RL.fail (RL.parse cfg s buf)) : GoodRL cfg (RL.parse cfg s buf).1 := by
  unfold RL.parse at hk ⊢
  rw [RL.loop_eq] at hk ⊢
  rcases (RL.scan cfg).loop_cases (GoodRL cfg) (·.fail = true) (fun s c _ h => RL_parseChar_good cfg s c h)
    (fun _ _ _ _ => rfl) buf s h with ⟨h1, h2, _⟩ | ⟨h1, h2⟩
  · simp only [h1]; exact h2
  · simp only [h1, if_true] at hk
    exact absurd h2 (by simp [hk.of_false.2])

def slack (st : HS) : Nat := if st = .valid then 1 else 0

def GoodFL (cfg : Cfg) (f : FL) : Prop :=
  f.name.length + f.value.length + slack f.st ≤ f.length ∧ f.length ≤ cfg.maxLine

theorem GoodFL_init (cfg : Cfg) : GoodFL cfg {} := by
  simp [GoodFL, slack]

theorem FL_valueStep_good (cfg : Cfg) (s : FL) (c : Byte) (hs : s.name.length + s.value.length + 1 ≤ s.length)
    (hl : s.length ≤ cfg.maxLine) (hst : s.st = .value) : Accepts (GoodFL cfg) (FL.valueStep cfg s c) := by
  simp only [FL.valueStep, accepts_ite, accepts_false, accepts_true, GoodFL, slack, hst, hl, hs, List.length_append,
    List.length_singleton, reduceCtorEq, if_false, if_true, Nat.add_zero, implies_true, and_true]
  exact ⟨fun _ => hs, fun _ _ => Nat.le_of_succ_le hs⟩

/-- every byte is counted in `length`, at most one is stored for it, and the LF that completes the line is not stored:
    that one is the `slack` the fold look-ahead uses up -/
theorem FL_parseChar_good (cfg : Cfg) (s : FL) (c : Byte) (h : GoodFL cfg s) :
    Accepts (GoodFL cfg) (FL.parseChar cfg s c) := by
  unfold FL.parseChar
  by_cases hl : s.length + 1 > cfg.maxLine
  · simp only [hl, if_true]; exact accepts_false _ _
  · simp only [hl, if_false]
    have hl' := Nat.le_of_not_gt hl
    obtain ⟨h1, -⟩ := h
    split <;> rename_i hst <;> simp only [hst, slack, reduceCtorEq, if_false, Nat.add_zero] at h1 <;>
      simp only [accepts_ite, accepts_false, accepts_true, GoodFL, slack, hst, hl', List.length_append,
        List.length_singleton, reduceCtorEq, if_false, if_true, Nat.add_zero, implies_true, and_true, true_and]
    · exact ⟨fun _ => by omega, fun _ _ => Nat.le_succ_of_le h1⟩
    · exact ⟨fun _ _ => Nat.le_succ_of_le h1, fun _ => FL_valueStep_good cfg _ c (Nat.succ_le_succ h1) hl' rfl⟩
    · exact FL_valueStep_good cfg _ c (Nat.succ_le_succ h1) hl' rfl
    · exact fun _ => Nat.succ_le_succ h1

theorem FL_peek_good (cfg : Cfg) (s : FL) (b : Bytes) (h : GoodFL cfg s) : GoodFL cfg (s.peek b) := by
  unfold FL.peek
  split
  · exact h
  · split
    · rename_i hc
      simp only [Bool.and_eq_true, beq_iff_eq] at hc
      unfold GoodFL at h ⊢
      simp only [hc.1, slack, if_true] at h
      simp only [List.length_append, List.length_singleton, slack]
      simp
      omega
    · exact h

theorem FL_loop_good (cfg : Cfg) (s : FL) (buf : Bytes) (h : GoodFL cfg s)
    (hk : Kept FL.fail (FL.loop cfg s buf)) : GoodFL cfg (FL.loop cfg s buf).1 := by
  rw [FL.loop_eq] at hk ⊢
  rcases (FL.scan cfg).loop_cases (GoodFL cfg) (·.fail = true)
    (fun s c cs h hr => FL_peek_good cfg _ cs (FL_parseChar_good cfg s c h hr))
    (fun _ _ _ _ => rfl) buf s h with ⟨_, h2, _⟩ | ⟨h1, h2⟩
  · exact h2
  · simp only [h1, Bool.not_true, Bool.false_and] at hk
    exact absurd h2 (by simp [hk.of_false.2])

theorem fieldsBytes_add (fs : Fields) (n v : Bytes) :
    fieldsBytes (fs.add n v) ≤ fieldsBytes fs + (n.length + v.length) + 1 := by
  induction fs with
  | nil => simp [Fields.add, fieldsBytes]
  | cons p rest ih =>
    obtain ⟨n', v'⟩ := p
    simp only [Fields.add]
    split
    · rename_i hn
      have : n' = n := by simpa using hn
      subst this
      simp only [fieldsBytes, List.map_cons, List.sum_cons, List.length_append, List.length_singleton]
      omega
    · simp only [fieldsBytes, List.map_cons, List.sum_cons] at ih ⊢
      omega

def GoodMH (cfg : Cfg) (h : MH) : Prop :=
  fieldsBytes h.fields ≤ h.length + h.number ∧ h.length ≤ cfg.maxHdrLen ∧ h.number ≤ cfg.maxHdrNum ∧
    GoodFL cfg h.field

theorem GoodMH_init (cfg : Cfg) : GoodMH cfg {} := by
  refine ⟨?_, ?_, ?_, GoodFL_init cfg⟩ <;> simp [fieldsBytes]

theorem GoodMH.bound {cfg : Cfg} {h : MH} (hg : GoodMH cfg h) :
    fieldsBytes h.fields + (h.field.name.length + h.field.value.length) ≤
      cfg.maxHdrLen + cfg.maxHdrNum + cfg.maxLine := by
  obtain ⟨m1, m2, m3, f1, f2⟩ := hg
  omega

theorem MH_commit_good (cfg : Cfg) (h : MH) (f : FL) (hg : GoodMH cfg h) :
    Accepts (GoodMH cfg) (MH.commit cfg h f) := by
  have ha := fieldsBytes_add h.fields f.name f.value
  obtain ⟨h1, h2, h3, h4⟩ := hg
  simp only [MH.commit, accepts_ite, accepts_false, accepts_true, implies_true, true_and, Bool.or_eq_true,
    decide_eq_true_eq, not_or, Nat.not_lt, GoodMH]
  exact fun hc => ⟨by omega, hc.1, hc.2, GoodFL_init cfg⟩

theorem MH_blank_good (cfg : Cfg) (h : MH) (buf : Bytes) (hg : GoodMH cfg h) :
    GoodMH cfg (MH.blank cfg h buf).1 := by
  obtain ⟨e1, e2, e3, e4⟩ := MH.blank_frame cfg h buf
  unfold GoodMH
  rw [e1, e2, e3, e4]
  exact hg

theorem MH_parse_good (cfg : Cfg) (h : MH) (buf : Bytes) (hg : GoodMH cfg h)
    (hk : Kept MH.fail (MH.parse cfg h buf)) : GoodMH cfg (MH.parse cfg h buf).1 := by
  have hs : ∀ (h : MH) (s : FL) (c : Byte) (cs : Bytes), (s = {} ∨ h.field.started = true ∧ s = h.field.peek (c :: cs)) →
      GoodMH cfg h → GoodFL cfg s := by
    rintro h s c cs (rfl | ⟨_, rfl⟩) hg
    · exact GoodFL_init cfg
    · exact FL_peek_good cfg _ _ hg.2.2.2
  refine MH.parse_ind cfg (fun h _ res => GoodMH cfg h → Kept MH.fail res → GoodMH cfg res.1)
    (fun _ hg _ => hg) (fun h buf hg _ => MH_blank_good cfg h buf hg) ?_ ?_ ?_ h buf hg hk
  · intro h s c cs hs' _ hg hk
    exact ⟨hg.1, hg.2.1, hg.2.2.1, FL_loop_good cfg s _ (hs h s c cs hs' hg) (Or.inr hk.of_false)⟩
  · intro h s c cs _ _ hne _ _ hk
    exact absurd hk.of_false.1 hne
  · intro h s c cs res _ _ _ hc ih hg hk
    exact ih (MH_commit_good cfg h _ hg hc) hk

def GoodRQ (cfg : Cfg) (q : RQ) : Prop := GoodRL cfg q.line ∧ GoodMH cfg q.headers

theorem RQ_parse_good (cfg : Cfg) (q : RQ) (buf : Bytes) (hg : GoodRQ cfg q)
    (hk : Kept RQ.fail (RQ.parse cfg q buf)) : GoodRQ cfg (RQ.parse cfg q buf).1 := by
  revert hk
  rw [Cmp.RQ_parse_eq]
  refine Cmp.seq2_ind _ _ _ _ _ (GoodRQ cfg) (fun p => Kept RQ.fail p → GoodRQ cfg p.1) ?_ ?_ q buf hg
  · intro q buf hg
    split
    · next hr => exact ⟨RL_parse_good cfg _ _ hg.1 (Or.inl hr), hg.2⟩
    · exact fun hk => ⟨RL_parse_good cfg _ _ hg.1 (hk.part fun h => (Bool.or_eq_false_iff.mp h).1), hg.2⟩
  · intro q buf hg
    exact Cmp.hdrs_ind _ _ (fun p => Kept RQ.fail p → GoodRQ cfg p.1) q buf (fun _ _ => hg)
      (fun _ hk => ⟨hg.1, MH_parse_good cfg _ _ hg.2 (hk.part fun h => (Bool.or_eq_false_iff.mp h).2)⟩)
      (fun hr _ => ⟨hg.1, MH_parse_good cfg _ _ hg.2 (Or.inl hr)⟩)

def GoodCH (cfg : Cfg) (s : CH) : Prop :=
  s.hexSize.length ≤ Gen.maxSizeDigits ∧ s.ext.length ≤ s.length ∧ s.length ≤ cfg.maxLine ∧
    s.size ≤ cfg.maxChunk

theorem GoodCH_init (cfg : Cfg) : GoodCH cfg {} := by
  simp [GoodCH]

theorem CH_sizeStep_good (cfg : Cfg) (s : CH) (c : Byte) (h : GoodCH cfg s) :
    Accepts (GoodCH cfg) (CH.sizeStep cfg s c) := by
  obtain ⟨h1, h2, h3, h4⟩ := h
  simp only [CH.sizeStep, accepts_ite, accepts_false, accepts_true, GoodCH, h1, h2, h3, h4, gt_iff_lt, Nat.not_lt,
    imp_self, implies_true, and_true, true_and]
  intro _ _ hs
  simp only [hs, implies_true, and_self]

theorem CH_extStep_good (cfg : Cfg) (s : CH) (c : Byte) (h : GoodCH cfg s) (hl : s.ext.length < s.length) :
    Accepts (GoodCH cfg) (CH.extStep cfg s c) := by
  obtain ⟨h1, h2, h3, h4⟩ := h
  simp only [CH.extStep, accepts_ite, accepts_false, accepts_true, GoodCH, h1, h2, h3, h4, List.length_append,
    List.length_singleton, Nat.succ_le_of_lt hl, implies_true, and_true]

theorem CH_parseChar_good (cfg : Cfg) (s : CH) (c : Byte) (h : GoodCH cfg s) :
    Accepts (GoodCH cfg) (CH.parseChar cfg s c) := by
  unfold CH.parseChar
  by_cases hl : s.length + 1 > cfg.maxLine
  · simp only [hl, if_true]; exact accepts_false _ _
  · have hg : ∀ st ws, GoodCH cfg { s with length := s.length + 1, st := st, ws := ws } :=
      fun _ _ => ⟨h.1, Nat.le_succ_of_le h.2.1, Nat.le_of_not_gt hl, h.2.2.2⟩
    have hx : s.ext.length < s.length + 1 := Nat.lt_succ_of_le h.2.1
    simp only [hl, if_false]
    split
    · simp only [accepts_ite, accepts_false, accepts_true, implies_true, true_and]
      exact ⟨fun _ _ => hg _ _, fun _ => CH_sizeStep_good cfg _ c (hg _ _)⟩
    · exact CH_sizeStep_good cfg _ c (hg _ _)
    · simp only [accepts_ite, accepts_false, accepts_true, implies_true, true_and]
      exact ⟨fun _ _ => hg _ _, fun _ => CH_extStep_good cfg _ c (hg _ _) hx⟩
    · exact CH_extStep_good cfg _ c (hg _ _) hx
    · simp only [accepts_ite, accepts_false, accepts_true, implies_true, and_true]
      exact fun _ => hg _ _
    · exact accepts_false _ _

theorem CH_parse_good (cfg : Cfg) (s : CH) (buf : Bytes) (h : GoodCH cfg s)
    (hk : Kept CH.fail (CH.parse cfg s buf)) : GoodCH cfg (CH.parse cfg s buf).1 := by
  unfold CH.parse at hk ⊢
  rw [CH.loop_eq] at hk ⊢
  rcases (CH.scan cfg).loop_cases (GoodCH cfg) (·.fail = true) (fun s c _ h => CH_parseChar_good cfg s c h)
    (fun _ _ _ _ => rfl) buf s h with ⟨h1, h2, _⟩ | ⟨h1, h2⟩
  · simp only [h1]; exact h2
  · simp only [h1, if_true] at hk
    exact absurd h2 (by simp [hk.of_false.2])

def GoodCK (cfg : Cfg) (k : CK) : Prop :=
  GoodCH cfg k.hdr ∧ k.data.length ≤ cfg.maxChunk ∧ GoodMH cfg k.trailers

theorem GoodCK_init (cfg : Cfg) : GoodCK cfg {} :=
  ⟨GoodCH_init cfg, Nat.zero_le _, GoodMH_init cfg⟩

theorem CK_parseData_good (cfg : Cfg) (k : CK) (buf : Bytes) (hg : GoodCK cfg k) :
    GoodCK cfg (CK.parseData cfg k buf).1 := by
  obtain ⟨hh, hd, ht⟩ := hg
  have hs : k.hdr.size ≤ cfg.maxChunk := hh.2.2.2
  obtain ⟨e1, e2, e3⟩ := Cmp.CK_parseData_facts cfg k buf
  refine ⟨e1 ▸ hh, ?_, e2 ▸ ht⟩
  rw [e3]
  simp only [List.length_append, List.length_take]
  omega

theorem CK_parse_good (cfg : Cfg) (k : CK) (buf : Bytes) (hg : GoodCK cfg k)
    (hk : Kept CK.fail (CK.parse cfg k buf)) : GoodCK cfg (CK.parse cfg k buf).1 := by
  revert hk
  rw [Cmp.CK_parse_eq]
  refine Cmp.seq2_ind _ _ _ _ _ (GoodCK cfg) (fun p => Kept CK.fail p → GoodCK cfg p.1) ?_ ?_ k buf hg
  · intro k buf hg
    split
    · next hr => exact ⟨CH_parse_good cfg _ _ hg.1 (Or.inl hr), hg.2⟩
    · exact fun hk => ⟨CH_parse_good cfg _ _ hg.1 (hk.part fun h => (Bool.or_eq_false_iff.mp h).1), hg.2⟩
  · intro k buf hg
    unfold Cmp.CK_body
    split
    · exact Cmp.hdrs_ind _ _ (fun p => Kept CK.fail p → GoodCK cfg p.1) k buf (fun h => Bool.noConfusion h)
        (fun _ hk => ⟨hg.1, hg.2.1, MH_parse_good cfg _ _ hg.2.2 (hk.part fun h => (Bool.or_eq_false_iff.mp h).2)⟩)
        (fun hr _ => ⟨hg.1, hg.2.1, MH_parse_good cfg _ _ hg.2.2 (Or.inl hr)⟩)
    · exact fun _ => CK_parseData_good cfg k buf hg

structure Good (cfg : Cfg) (r : RR) : Prop where
  rq : GoodRQ cfg r.request
  body : r.body.length ≤ cfg.maxContent
  ck : GoodCK cfg r.chunk

theorem Good_init (cfg : Cfg) : Good cfg {} :=
  ⟨⟨by simp [GoodRL], GoodMH_init cfg⟩, Nat.zero_le _, GoodCK_init cfg⟩

theorem Good_closed (cfg : Cfg) : RR.Closed cfg (Good cfg) where
  clear _ := ⟨(Good_init cfg).rq, (Good_init cfg).body, (Good_init cfg).ck⟩
  code _ _ h := ⟨h.rq, h.body, h.ck⟩
  continued _ h := ⟨h.rq, h.body, h.ck⟩
  isHead _ _ h := ⟨h.rq, h.body, h.ck⟩
  head r buf h _ hk := ⟨RQ_parse_good cfg r.request buf h.rq hk, h.body, h.ck⟩
  toGet r h hh := by
    -- the request is a HEAD, whose four letters are stored within `maxMethod`: "GET" fits
    have hm : r.request.line.method = (b!"HEAD") := by simpa [RQ.isHead] using hh
    have h4 := h.rq.1.1
    rw [hm] at h4
    exact ⟨⟨⟨Nat.le_of_succ_le h4, h.rq.1.2⟩, h.rq.2⟩, h.body, h.ck⟩
  body _ _ h hl := ⟨h.rq, Nat.le_trans hl (Nat.max_le.2 ⟨h.body, Nat.le_refl _⟩), h.ck⟩
  newChunk _ h := ⟨h.rq, h.body, GoodCK_init cfg⟩
  chunk r buf h _ hk := ⟨h.rq, h.body, CK_parse_good cfg r.chunk buf h.ck hk⟩

theorem Good_bound (cfg : Cfg) (r : RR) (hg : Good cfg r) : retained r ≤ bound cfg := by
  obtain ⟨⟨⟨l1, l2⟩, m⟩, hb, ⟨⟨c1, c2, c3, -⟩, hd, t⟩⟩ := hg
  have hm := m.bound
  have ht := t.bound
  unfold retained bound
  omega

end C06

theorem RR.Closed.reach {cfg : Cfg} {I : RR → Prop} (hc : RR.Closed cfg I) (h0 : I {}) {r : RR} (hr : Reach cfg r) :
    I r := by
  induction hr with
  | init => exact h0
  | recv r buf _ ih => exact hc.receive r buf ih
  | react r buf _ ih => exact hc.afterResult _ _ (hc.receive r buf ih)
  | cleared r _ _ => exact hc.clear r
  | continued r _ ih => exact hc.continued r ih

theorem C06_any (cfg : Cfg) (r : RR) (hr : Reach cfg r) : retained r ≤ bound cfg :=
  C06.Good_bound cfg r ((C06.Good_closed cfg).reach (C06.Good_init cfg) hr)

theorem C06 : C06_statement := fun cfg r _ hr => C06_any cfg r hr

/-- non-vacuity: a state reached by an endless-header attack is covered -/
example : Reach {} (RR.receive {} (RR.receive {} {} (b!"GET / HTTP/1.0\r\n:\r\n")).1 (b!":\r\n:\r\n")).1 :=
  Reach.recv _ _ (Reach.recv _ _ Reach.init)

end Via
