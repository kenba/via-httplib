import ViaGen.RT
/-
  The decision chain of `request_router::handle_request` as it is in /repo NOW (ViaGen/RT.lean, tools/cxx2lean_router.py)
  = the hand-written `Router.handleRequest` about which C16 is stated (`RT_guard` restates the guard of C17 on the
  translated chain).  `find_route` and `get_route_parameters` are not translated (hand model + C16 correspondence);
  the `request_uri` constructor is (`Trans/URI.lean`).
-/
namespace Via

/-- the response the library builds for each outcome of the model; `chal a` = the challenge of authenticator `a` -/
def RT_abs (chal : Nat → Bytes) : Router.Outcome → GenRouter.Out
  | .notFound => .status "NOT_FOUND" []
  | .methodNotAllowed allow => .status "METHOD_NOT_ALLOWED" [("HEADER_ALLOW", allow)]
  | .unauthorised a => .status "UNAUTHORISED" [("HEADER_WWW_AUTHENTICATE", chal a)]
  | .handler id ps => .handler id ps

/-- "accepted" (`authOk a`) = authenticator `a` returned the empty string, as `authentication::authenticate` does -/
theorem RT_handleRequest (routes : List Router.Route) (chal : Nat → Bytes) (method target : Bytes) :
    GenRouter.handleRequest (Router.findRoute (Router.parseUri target).path routes) method chal =
      RT_abs chal (Router.handleRequest routes (fun a => (chal a).isEmpty) method target) := by
  unfold GenRouter.handleRequest Router.handleRequest
  cases Router.findRoute (Router.parseUri target).path routes with
  | none => rfl
  | some rp =>
    obtain ⟨r, ps⟩ := rp
    simp only []
    cases Router.mapFind method r.methods with
    | none => rfl
    | some e =>
      simp only []
      cases e.auth with
      | none => rfl
      | some a =>
        simp only []
        by_cases h : (chal a).isEmpty = true
        · simp [RT_abs, h]
        · simp [RT_abs, h]

theorem RT_guard (found : Option (Router.Route × Router.Params)) (method : Bytes) (chal : Nat → Bytes) (id : Nat) (ps : Router.Params)
    (h : GenRouter.handleRequest found method chal = .handler id ps) :
    ∃ r e, found = some (r, ps) ∧ Router.mapFind method r.methods = some e ∧ e.handler = id ∧
      ∀ a, e.auth = some a → (chal a).isEmpty = true := by
  unfold GenRouter.handleRequest at h
  cases found with
  | none => simp at h
  | some rp =>
    obtain ⟨r, ps'⟩ := rp
    simp only [] at h
    cases hm : Router.mapFind method r.methods with
    | none => simp [hm] at h
    | some e =>
      simp only [hm] at h
      cases ha : e.auth with
      | none =>
        simp only [ha] at h
        injection h with h1 h2
        exact ⟨r, e, by rw [h2], hm, h1, by intro a h'; rw [ha] at h'; cases h'⟩
      | some a =>
        simp only [ha] at h
        cases hc : (chal a).isEmpty
        · simp [hc] at h
        · simp [hc] at h
          exact ⟨r, e, by rw [h.2], hm, h.1, by intro a' h'; rw [ha] at h'; cases h'; exact hc⟩


theorem RT_searchPath (r : Router.Route) : GenRouter.searchPath r.path = r.searchPath := by
  unfold GenRouter.searchPath Router.Route.searchPath
  simp only []
  cases findByte 58 r.path <;> rfl

theorem RT_hasParameters (r : Router.Route) :
    GenRouter.hasParameters r.path (GenRouter.searchPath r.path) = r.hasParameters := by
  rw [RT_searchPath]; rfl

/-- non-vacuity of `RT_guard` -/
example : GenRouter.handleRequest (some ({ path := b!"/p", methods := [(b!"GET", { handler := 7, auth := some 1 })] }, []))
    (b!"GET") (fun _ => []) = .handler 7 [] := rfl
example : GenRouter.handleRequest (some ({ path := b!"/p", methods := [(b!"GET", { handler := 7, auth := some 1 })] }, []))
    (b!"GET") (fun _ => b!"Basic") = .status "UNAUTHORISED" [("HEADER_WWW_AUTHENTICATE", b!"Basic")] := rfl
end Via
