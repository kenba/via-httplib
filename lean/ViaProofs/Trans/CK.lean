import ViaGen.CK
import ViaProofs.Trans.CH
import ViaProofs.Trans.MH
import ViaProofs.Frag.Compose
/-
  `rx_chunk::parse` as it is in /repo NOW (`ViaGen/CK.lean`: signed `std::ptrdiff_t` arithmetic as `Int`, iterator
  arithmetic as `take` / `drop`, the chunk-header base class and the trailers member through their own translations) =
  the model's `CK.parse` (natural-number arithmetic, pattern matching on the remaining input), for every configuration
  and input and every chunk state satisfying `CK.Sane`, which holds initially and is preserved by `CK.parse`
  (`CK.sane_init`, `CK.parse_sane`).
-/
namespace Via

structure CK.Sane (k : CK) : Prop where
  fits : k.hdr.valid = true → k.data.length ≤ k.hdr.size
  none_before : k.hdr.valid = false → k.data = []
  trailers : k.trailers.FieldFresh

theorem CK.sane_init : ({} : CK).Sane :=
  { fits := fun h => by simp at h, none_before := fun _ => rfl, trailers := MH.fieldFresh_init }

theorem CK_body_translated (cfg : Cfg) (s : CK) (it : Bytes) (hv : s.hdr.valid = true)
    (hsz : s.data.length ≤ s.hdr.size) (hff : s.trailers.FieldFresh) :
    GenCK.parse cfg s it = Cmp.CK_body cfg s it := by
  unfold GenCK.parse Cmp.CK_body CK.isLast Cmp.hdrs
  rw [if_neg (by simp [hv])]
  by_cases h0 : (s.hdr.size == 0) = true
  · rw [if_pos h0, if_pos h0, MH_parse_translated cfg _ _ hff]
    rfl
  · rw [if_neg h0, if_neg h0, Cmp.CK_parseData_eq]
    have hreq : ((s.hdr.size : Int) - (s.data.length : Int)) = ((s.hdr.size - s.data.length : Nat) : Int) := by omega
    simp only [hreq, Int.toNat_natCast, gt_iff_lt, Int.ofNat_lt, Int.natCast_pos]
    generalize s.hdr.size - s.data.length = req
    by_cases hlt : req < it.length
    · rw [if_pos hlt]
      -- `take 0` / `drop 0` change nothing, so the test `data_required > 0` does not matter
      have hsit : (if 0 < req then (({ s with data := s.data ++ it.take req } : CK), it.drop req) else (s, it)) =
          ({ s with data := s.data ++ it.take req }, it.drop req) := by
        split
        · rfl
        · have h0 : req = 0 := by omega
          simp [h0]
      rw [hsit]
      exact Cmp.CK.eol.crlf_iter cfg.strict { s with data := s.data ++ it.take req } (it.drop req)
    · rw [if_neg hlt, List.take_of_length_le (Nat.le_of_not_lt hlt), List.drop_eq_nil_of_le (Nat.le_of_not_lt hlt)]
      rfl

theorem CK_parse_translated (cfg : Cfg) (k : CK) (buf : Bytes) (h : k.Sane) : GenCK.parse cfg k buf = CK.parse cfg k buf := by
  rw [Cmp.CK_parse_eq, Cmp.seq2]
  cases hv : k.hdr.valid
  · have hpv := (CH.laws cfg).flag k.hdr buf hv
    rw [GenCK.parse, if_pos (by rw [hv]; rfl), CH_parse_translated]
    generalize CH.parse cfg k.hdr buf = p at hpv
    obtain ⟨h1, rest, ok⟩ := p
    cases ok
    · rfl
    · -- the translation repeats the code after the header in both branches of its first test: what is left here is
      -- the other branch, taken by the state with the parsed header
      have hn : ¬ (!({ k with hdr := h1 } : CK).hdr.valid) = true := by simp [show h1.valid = true from hpv]
      refine Eq.trans ?_
        (CK_body_translated cfg { k with hdr := h1 } rest hpv (by simp [h.none_before hv]) h.trailers)
      rw [GenCK.parse.eq_def cfg { k with hdr := h1 }, if_neg hn]
      rfl
  · exact CK_body_translated cfg k buf hv (h.fits hv) h.trailers

theorem CK.parseData_sane (cfg : Cfg) (k : CK) (buf : Bytes) (hv : k.hdr.valid = true) (h : k.Sane) :
    (CK.parseData cfg k buf).1.Sane := by
  have hfit := h.fits hv
  obtain ⟨e1, e3, e2⟩ := Cmp.CK_parseData_facts cfg k buf
  refine { fits := fun _ => ?a, none_before := fun hh => ?b, trailers := ?c }
  case b => rw [e1, hv] at hh; cases hh
  case c => rw [e3]; exact h.trailers
  rw [e1, e2]
  simp only [List.length_append, List.length_take]
  omega

theorem CK.parse_sane (cfg : Cfg) (k : CK) (buf : Bytes) (h : k.Sane) : (CK.parse cfg k buf).1.Sane := by
  rw [Cmp.CK_parse_eq]
  unfold Cmp.seq2
  split
  · next hv => exact body k buf h hv
  · next hv =>
    have hv : k.hdr.valid = false := by simpa using hv
    have hpv := (CH.laws cfg).flag k.hdr buf hv
    have hd := h.none_before hv
    dsimp only
    split
    · next hr =>
      exact body _ _ ⟨fun _ => by simp [hd], fun hh => by simp [hpv, hr] at hh, h.trailers⟩ (hpv.trans hr)
    · next hr => exact ⟨fun hh => by simp [hpv, hr] at hh, fun _ => hd, h.trailers⟩
where
  body (k : CK) (buf : Bytes) (h : k.Sane) (hv : k.hdr.valid = true) : (Cmp.CK_body cfg k buf).1.Sane := by
    unfold Cmp.CK_body
    split
    · simp only [Cmp.hdrs, Bool.false_and, Bool.false_eq_true, if_false]
      split <;> exact ⟨h.fits, h.none_before, MH.parse_fieldFresh cfg _ _ h.trailers⟩
    · exact CK.parseData_sane cfg k buf hv h

end Via
