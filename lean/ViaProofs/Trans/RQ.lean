import ViaGen.RQ
import ViaGen.RP
import ViaProofs.Trans.RL
import ViaProofs.Trans.SL
import ViaProofs.Trans.MH
/-
  `rx_request::parse` and `rx_response::parse` as they are in /repo NOW (ViaGen/RQ.lean, ViaGen/RP.lean: the request /
  status line through `GenRL` / `GenSL`, the headers through `GenMH`) = the model's `RQ.parse` / `RP.parse`, for every
  configuration, state with `FieldFresh` headers, and input.
-/
namespace Via

/-- the header phase of `rx_request::parse` and `rx_response::parse` (the join point `parse_k1`) as the translator
    writes it -/
theorem Cmp.hdrs_iter {S : Type} (get : S → MH) (set : S → MH → S) (mark : S → S) (cfg : Cfg) (s : S) (it : Bytes)
    (hff : (get s).FieldFresh) :
    (if !(get s).valid then
       (let r := GenMH.parse cfg (get s) it
        if !r.2.2 then (set s r.1, r.2.1, false) else (mark (set s r.1), r.2.1, true))
     else (mark s, it, true)) = Cmp.hdrs get set mark true cfg s it := by
  rw [MH_parse_translated cfg _ _ hff, Cmp.hdrs]
  cases (get s).valid <;> rfl

theorem RQ_parse_translated (cfg : Cfg) (q : RQ) (buf : Bytes) (hff : q.headers.FieldFresh) :
    GenRQ.parse cfg q buf = RQ.parse cfg q buf := by
  have k1 (s : RQ) (it : Bytes) (h : s.headers.FieldFresh) : GenRQ.parse_k1 cfg s it = _ :=
    Cmp.hdrs_iter RQ.headers (fun q h => { q with headers := h }) (fun q => { q with valid := true }) cfg s it h
  rw [Cmp.RQ_parse_eq, Cmp.seq2, GenRQ.parse, RL_parse_translated]
  cases q.line.valid
  · generalize RL.parse cfg q.line buf = p
    obtain ⟨l, rest, ok⟩ := p
    cases ok
    · rfl
    · exact k1 { q with line := l } rest hff
  · exact k1 q buf hff

theorem RP_parse_translated (cfg : Cfg) (q : RP) (buf : Bytes) (hff : q.headers.FieldFresh) :
    GenRP.parse cfg q buf = RP.parse cfg q buf := by
  have k1 (s : RP) (it : Bytes) (h : s.headers.FieldFresh) : GenRP.parse_k1 cfg s it = _ :=
    Cmp.hdrs_iter RP.headers (fun q h => { q with headers := h }) (fun q => { q with valid := true }) cfg s it h
  rw [Cmp.RP_parse_eq, Cmp.seq2, GenRP.parse, SL_parse_translated]
  cases q.line.valid
  · generalize SL.parse cfg q.line buf = p
    obtain ⟨l, rest, ok⟩ := p
    cases ok
    · rfl
    · exact k1 { q with line := l } rest hff
  · exact k1 q buf hff

end Via
