import ViaGen.CH
import ViaProofs.Frag.Lines
/-
  `chunk_header::parse_char` and `chunk_header::parse` as they are in /repo NOW (`ViaGen/CH.lean`, generated by
  tools/cxx2lean.py) = the model's `CH.parseChar` and `CH.parse`, for every configuration, state and input.
-/
namespace Via

theorem CH_parseChar_translated (cfg : Cfg) (s : CH) (c : Byte) : GenCH.parseChar cfg s c = CH.parseChar cfg s c := by
  unfold GenCH.parseChar CH.parseChar
  dsimp only
  -- both begin with the same length check; `t` is the state after it
  generalize (if s.length + 1 > cfg.maxLine then ({ s with length := s.length + 1, st := .errLength } : CH)
    else { s with length := s.length + 1 }) = t
  obtain ⟨size, length, ws, hexSize, ext, st, sizeRead, valid, fail⟩ := t
  cases st <;> first
    | rfl
    | (repeat' split) <;> simp_all

theorem CH_parse_translated (cfg : Cfg) (s : CH) (buf : Bytes) : GenCH.parse cfg s buf = CH.parse cfg s buf := by
  rw [CH.parse_eq]
  refine Line.parse_unique (CH.line cfg) (GenCH.parseLoop cfg) (fun s => rfl) (fun s c cs => ?_) buf s
  rw [GenCH.parseLoop]
  by_cases hv : s.st = .valid
  · simp [hv, CH.line, CH.scan]
  · cases hr : (CH.parseChar cfg s c).2 <;> simp [hv, hr, CH_parseChar_translated, CH.line, CH.scan]

end Via
