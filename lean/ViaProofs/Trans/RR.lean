import ViaGen.RR
import ViaProofs.Trans.RQ
import ViaProofs.Trans.CK
import ViaProofs.Rx.Closed
/-
  `request_receiver::receive` (and `clear`) as they are in /repo NOW (ViaGen/RR.lean: tools/cxx2lean_rx.py translates
  the function with its early returns, signed length arithmetic, `switch` on the request-line state, accessors resolved
  down to data members, and one definition per join point `GenRR.receive_k<n>`) = the model's `RR.receive`, for every
  configuration, input and receiver state satisfying `RR.Sane` (headers `FieldFresh`, chunk `Sane`).  `RR.Sane` holds
  for a fresh receiver (`RR.sane_init`) and is preserved by `receive` and by what `http_server` does between two calls
  (`RR.afterResult`; `RR.sane_closed`), so the equality lifts to the whole per-read loop and to every sequence of reads
  (`RR_readLoop_translated`, `RR_reads_translated`).

  The header look-ups of `message_headers` (`content_length`, `is_chunked`, `expect_continue`) appear in the translation
  under the model's names (`MH.contentLength`, …): `Trans/MHA.lean` ties those to the source.  `find` is mapped by name
  to `Fields.find` and tied by the differential correspondence only.
-/
namespace Via

theorem GenRR_clear_eq (s : RR) : GenRR.clear s = s.clear := by
  cases s; rfl

/-- the model's `receiveBody` from the 100-continue test onwards (a verbatim copy of that part of the definition) -/
def RR.bodyTail (cfg : Cfg) (r : RR) (requestParsed : Bool) (cl : Int) (buf : Bytes) : RR × Bytes × Rx :=
  let rxSize : Int := buf.length
  if requestParsed && rxSize < cl && r.request.expectContinue && !r.continueSent then
    ({ r with code := 100 }, buf, .expectContinue)
  else
    let required : Int := cl - r.body.length
    let take : Nat := if rxSize > required then required.toNat else buf.length
    let r := { r with body := r.body ++ buf.take take }
    let rest := buf.drop take
    if (r.body.length : Int) == cl then
      let isHead := r.request.isHead
      let r := { r with isHead := isHead }
      let r := if isHead && cfg.translateHead
        then { r with request := { r.request with line := { r.request.line with method := (b!"GET") } } } else r
      (r, rest, .valid)
    else (r, rest, .incomplete)

theorem nat_beq_toNat (n : Nat) (cl : Int) (h : 0 ≤ cl) : (n == cl.toNat) = ((n : Int) == cl) := by
  obtain ⟨m, rfl⟩ := Int.eq_ofNat_of_zero_le h
  rw [Int.toNat_natCast, Bool.eq_iff_iff, beq_iff_eq, beq_iff_eq, Int.natCast_inj]

/-- the translation carries `(state, rest)` pairs through its `if`s: `apply_ite` projects them -/
theorem RR_k4_translated (cfg : Cfg) (s : RR) (rp : Bool) (cl : Int) (it : Bytes)
    (hcl : MH.contentLength s.request.headers = cl) (hpos : 0 ≤ cl) :
    GenRR.receive_k4 cfg (it.length : Int) cl rp s it = RR.bodyTail cfg s rp cl it := by
  unfold GenRR.receive_k4 RR.bodyTail
  refine ite_congr rfl (fun _ => rfl) (fun _ => ?_)
  by_cases hc : (it.length : Int) > cl - (s.body.length : Int)
  · simp only [hc, if_true, hcl, nat_beq_toNat _ _ hpos, apply_ite Prod.fst, apply_ite Prod.snd, ite_self,
      GenRR.receive_k2, RQ.isHead]
  · simp only [hc, if_false]
    cases it with
    | nil =>
      simp only [List.isEmpty_nil, Bool.not_true, Bool.false_eq_true, List.take_nil, List.drop_nil,
        List.append_nil, hcl, nat_beq_toNat _ _ hpos, apply_ite Prod.fst, apply_ite Prod.snd, ite_self,
        GenRR.receive_k2, RQ.isHead]
    | cons c cs =>
      simp only [List.isEmpty_cons, Bool.not_false, if_true, List.take_length, List.drop_length, hcl,
        nat_beq_toNat _ _ hpos, apply_ite Prod.fst, apply_ite Prod.snd, ite_self, GenRR.receive_k2, RQ.isHead]

theorem RR_k3_translated (cfg : Cfg) (s : RR) (rp : Bool) (it : Bytes) :
    GenRR.receive_k3 cfg (it.length : Int) (MH.contentLength s.request.headers) rp s it =
      (if s.request.headers.contentLength < 0 then ({ s with code := 400 }.clear, it, .invalid)
       else if s.request.headers.contentLength > 0 && s.request.headers.contentLength > (cfg.maxContent : Int) then
         ({ s with code := 413 }.clear, it, .invalid)
       else if !(s.request.headers.contentLength > 0) && (it.length : Int) > 0 &&
           (s.request.headers.fields.find (b!"content-length")).isEmpty then
         ({ s with code := 411 }.clear, it, .invalid)
       else RR.bodyTail cfg s rp s.request.headers.contentLength it) := by
  unfold GenRR.receive_k3
  refine ite_congr rfl (fun _ => rfl) (fun hneg => ?_)
  have k4 := RR_k4_translated cfg s rp _ it rfl (Int.not_lt.1 hneg)
  by_cases hgt : s.request.headers.contentLength > 0
  · rw [if_pos hgt, k4]
    simp only [hgt, decide_true, Bool.true_and, Bool.not_true, Bool.false_and, Bool.false_eq_true, if_false,
      decide_eq_true_eq, GenRR_clear_eq]
  · rw [if_neg hgt, k4]
    simp only [hgt, decide_false, Bool.false_and, Bool.false_eq_true, if_false, Bool.not_false, Bool.true_and,
      GenRR_clear_eq]

theorem RR_body_translated (cfg : Cfg) (s : RR) (rp : Bool) (it : Bytes) :
    (if (s.request.line.method == ([84, 82, 65, 67, 69] : Bytes)) then
       (if (MH.contentLength s.request.headers == (0 : Int)) then
          GenRR.receive_k3 cfg (it.length : Int) (MH.contentLength s.request.headers) rp { s with code := 405 } it
        else (GenRR.clear { s with code := 400 }, it, Rx.invalid))
     else GenRR.receive_k3 cfg (it.length : Int) (MH.contentLength s.request.headers) rp s it) =
    RR.receiveBody cfg s rp it := by
  unfold RR.receiveBody RQ.isTrace
  dsimp only
  -- what follows the TRACE test in the definition is the right side of `RR_k3_translated` with `RR.bodyTail` unfolded
  cases s.request.line.method == ([84, 82, 65, 67, 69] : Bytes)
  · exact RR_k3_translated cfg s rp it
  · cases MH.contentLength s.request.headers == (0 : Int)
    · rfl
    · exact RR_k3_translated cfg { s with code := 405 } rp it

theorem RR_k5_translated (cfg : Cfg) (s : RR) (rp : Bool) (it : Bytes) (hs : s.chunk.Sane) :
    GenRR.receive_k5 cfg rp s it =
      (let p := CK.parse cfg s.chunk it
       let r := { s with chunk := p.1 }
       if !p.2.2 && (!p.2.1.isEmpty || r.chunk.fail) then ({ r with code := 400 }.clear, p.2.1, .invalid)
       else if r.chunk.valid then
         if cfg.concatChunks then
           if r.chunk.isLast then (r, p.2.1, .valid)
           else if r.body.length + r.chunk.data.length > cfg.maxContent then
             ({ r with code := 413 }.clear, p.2.1, .invalid)
           else ({ r with body := r.body ++ r.chunk.data }, p.2.1, .incomplete)
         else (r, p.2.1, .chunk)
       else (r, p.2.1, .incomplete)) := by
  rw [GenRR.receive_k5, CK_parse_translated cfg _ _ hs]
  generalize CK.parse cfg s.chunk it = p
  obtain ⟨k, rest, ok⟩ := p
  cases ok <;> rfl

theorem RR_k1_translated (cfg : Cfg) (s : RR) (rp : Bool) (it : Bytes) (hs : s.chunk.Sane) :
    GenRR.receive_k1 cfg rp s it =
      (if s.request.missingHost then ({ s with code := 400 }, it, .invalid)
       else if !s.request.headers.isChunked then RR.receiveBody cfg s rp it
       else RR.receiveChunk cfg s rp it) := by
  unfold GenRR.receive_k1
  refine ite_congr rfl (fun _ => rfl) fun _ => ite_congr rfl (fun _ => RR_body_translated cfg s rp it) fun _ => ?_
  have hsit : (if s.chunk.valid then (({ s with chunk := {} } : RR), it) else (s, it)) = (RR.reset s, it) := by
    unfold RR.reset
    split <;> rfl
  obtain ⟨h1, _, h2, _⟩ := RR.reset_facts s
  have h0 : (RR.reset s).chunk.Sane := RR.reset_cases (P := fun x => x.chunk.Sane) s CK.sane_init fun _ => hs
  have k5 := (RR_k5_translated cfg _ rp it h0).trans (RR.chunkParse_eq cfg _ it).symm
  rw [hsit, RR.receiveChunk_eq, ← h1, ← h2, ← k5]
  generalize RR.reset s = r0
  cases rp <;> rfl

structure RR.Sane (r : RR) : Prop where
  headers : r.request.headers.FieldFresh
  chunk : r.chunk.Sane

theorem RR.sane_init : ({} : RR).Sane := ⟨MH.fieldFresh_init, CK.sane_init⟩

theorem RR_receive_translated (cfg : Cfg) (r : RR) (buf : Bytes) (h : r.Sane) :
    GenRR.receive cfg r buf = RR.receive cfg r buf := by
  have k1 (s : RR) (rp : Bool) (it : Bytes) (hs : s.chunk.Sane) :
      GenRR.receive_k1 cfg rp s it = RR.afterHead cfg s rp it := RR_k1_translated cfg s rp it hs
  rw [RR.receive_eq, GenRR.receive, RQ_parse_translated cfg _ _ h.headers]
  cases r.request.valid
  · simp only [Bool.not_false, if_true]
    generalize RQ.parse cfg r.request buf = p
    obtain ⟨q, rest, ok⟩ := p
    cases ok
    · simp only [Bool.not_false, if_true, GenRR_clear_eq, RQ.fail, MH.fail]
      refine ite_congr rfl (fun _ => ?_) (fun _ => rfl)
      unfold RR.errCode
      generalize q.line.st = st
      cases st <;> rfl
    · simp only [Bool.not_true, Bool.false_eq_true, if_false]
      exact k1 _ true rest h.chunk
  · simp only [Bool.not_true, Bool.false_eq_true, if_false]
    exact k1 r false buf h.chunk

theorem RR.clear_sane (r : RR) : r.clear.Sane := ⟨MH.fieldFresh_init, CK.sane_init⟩

theorem RQ.parse_fieldFresh (cfg : Cfg) (q : RQ) (buf : Bytes) (h : q.headers.FieldFresh) :
    (RQ.parse cfg q buf).1.headers.FieldFresh := by
  rw [Cmp.RQ_parse_eq]
  refine Cmp.seq2_ind _ _ _ _ _ (·.headers.FieldFresh) (·.1.headers.FieldFresh) (fun q buf h => ?_) ?_ q buf h
  · split <;> exact h
  · exact Cmp.hdrs_fieldFresh true cfg (fun _ _ => rfl) (fun _ => rfl)

theorem RR.sane_closed (cfg : Cfg) : RR.Closed cfg RR.Sane where
  clear := RR.clear_sane
  code _ _ h := ⟨h.headers, h.chunk⟩
  continued _ h := ⟨h.headers, h.chunk⟩
  isHead _ _ h := ⟨h.headers, h.chunk⟩
  head r buf h _ _ := ⟨RQ.parse_fieldFresh cfg r.request buf h.headers, h.chunk⟩
  toGet _ h _ := ⟨h.headers, h.chunk⟩
  body _ _ h _ := ⟨h.headers, h.chunk⟩
  newChunk _ h := ⟨h.headers, CK.sane_init⟩
  chunk r buf h _ _ := ⟨h.headers, CK.parse_sane cfg r.chunk buf h.chunk⟩

/-- the per-read loop of `http_server::receive_handler` (hand-written model) run with the TRANSLATED `receive` -/
def GenRR.readLoop (cfg : Cfg) : Nat → RR → Bytes → List Delivery → RR × Bytes × List Delivery
  | 0, r, buf, acc => (r, buf, acc.reverse)
  | fuel + 1, r, buf, acc =>
    if buf.isEmpty then (r, buf, acc.reverse)
    else
      let p := GenRR.receive cfg r buf
      let d : Delivery := { rx := p.2.2, used := buf.length - p.2.1.length, snapshot := p.1 }
      let r' := RR.afterResult cfg p.1 p.2.2
      if p.2.2 == .invalid then (r', p.2.1, (d :: acc).reverse)
      else GenRR.readLoop cfg fuel r' p.2.1 (d :: acc)

theorem GenRR.readLoop_eq (cfg : Cfg) (fuel : Nat) : ∀ (r : RR) (buf : Bytes) (acc : List Delivery),
    GenRR.readLoop cfg fuel r buf acc =
      (Rcv.mk (GenRR.receive cfg) (RR.afterResult cfg)).readLoop Delivery.mk fuel r buf acc := by
  induction fuel with
  | zero => intro r buf acc; rfl
  | succ n ih => intro r buf acc; simp only [GenRR.readLoop, Rcv.readLoop, ih]; rfl

theorem RR_readLoop_translated (cfg : Cfg) : ∀ (fuel : Nat) (r : RR) (buf : Bytes) (acc : List Delivery), r.Sane →
    GenRR.readLoop cfg fuel r buf acc = RR.readLoop cfg fuel r buf acc ∧ (RR.readLoop cfg fuel r buf acc).1.Sane := by
  intro fuel r buf acc h
  have step := (RR.sane_closed cfg).next
  rw [GenRR.readLoop_eq, RR.readLoop_eq]
  exact ⟨Rcv.readLoop_congr (RR.rcv cfg) Delivery.mk ⟨GenRR.receive cfg, RR.afterResult cfg⟩ step
    (fun r buf h => RR_receive_translated cfg r buf h) rfl fuel r buf acc h,
    Rcv.readLoop_inv (RR.rcv cfg) Delivery.mk step fuel r buf acc h⟩

theorem RR_reads_translated (cfg : Cfg) (reads : List Bytes) :
    (reads.foldl (fun (st : RR × List (List Delivery)) rd =>
        let x := GenRR.readLoop cfg (rd.length + 1) st.1 rd []
        (x.1, st.2 ++ [x.2.2])) ({}, [])) =
    (reads.foldl (fun (st : RR × List (List Delivery)) rd =>
        let x := RR.readLoop cfg (rd.length + 1) st.1 rd []
        (x.1, st.2 ++ [x.2.2])) ({}, [])) := by
  have hs : (({}, []) : RR × List (List Delivery)).1.Sane := RR.sane_init
  generalize (({}, []) : RR × List (List Delivery)) = st at hs ⊢
  induction reads generalizing st with
  | nil => rfl
  | cons rd rest ih =>
    obtain ⟨e, hs'⟩ := RR_readLoop_translated cfg (rd.length + 1) st.1 rd [] hs
    simp only [List.foldl_cons, e]
    exact ih _ hs'

end Via
