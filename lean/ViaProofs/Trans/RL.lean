import ViaGen.RL
import ViaProofs.Frag.Lines
/-
  `request_line::parse_char` and `request_line::parse` as they are in /repo NOW (`ViaGen/RL.lean`, generated by
  tools/cxx2lean.py) = the model's `RL.parseChar` and `RL.parse`, for every configuration, state and input.
-/
namespace Via

theorem RL_parseChar_translated (cfg : Cfg) (s : RL) (c : Byte) : GenRL.parseChar cfg s c = RL.parseChar cfg s c := by
  obtain ⟨method, uri, major, minor, st, ws, valid, fail⟩ := s
  cases st <;> first
    | rfl
    | (simp only [GenRL.parseChar, RL.parseChar]; repeat' split) <;> simp_all

theorem RL_parse_translated (cfg : Cfg) (s : RL) (buf : Bytes) : GenRL.parse cfg s buf = RL.parse cfg s buf := by
  rw [RL.parse_eq]
  refine Line.parse_unique (RL.line cfg) (GenRL.parseLoop cfg) (fun s => rfl) (fun s c cs => ?_) buf s
  rw [GenRL.parseLoop]
  by_cases hv : s.st = .valid
  · simp [hv, RL.line, RL.scan]
  · cases hr : (RL.parseChar cfg s c).2 <;> simp [hv, hr, RL_parseChar_translated, RL.line, RL.scan]

end Via
