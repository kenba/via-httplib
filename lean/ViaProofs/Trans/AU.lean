import ViaGen.AU
import ViaProofs.Lemmas.Basic
/-
  The credential check as it is in /repo NOW (ViaGen/AU.lean, tools/cxx2lean_auth.py: `basic::is_valid`,
  `basic::authenticate_value`, `authentication::authenticate`) = the hand-written model `Via.Auth.*` about which C17 is
  stated.  `GenAuth.isValid` returns `none` where an exception would leave the C++ function (`substr` beyond the end), so
  `AU_isValid` also says that no header map and no user table make `is_valid` throw.  `base64::decode` (Boost archive
  iterators) is not translated: both sides use `Auth.decode`.
-/
namespace Via

theorem AU_isValid (hf : Bytes → Option Bytes) (table : Auth.Table) :
    GenAuth.isValid hf (fun u => Auth.tableFind u table) = some (Auth.basicIsValid table (hf GenAuth.lcAuthorization)) := by
  unfold GenAuth.isValid Auth.basicIsValid GenAuth.lcAuthorization
  simp only []
  cases hf [97, 117, 116, 104, 111, 114, 105, 122, 97, 116, 105, 111, 110] with
  | none => rfl
  | some a =>
    simp only []
    cases hp : findSub ([66, 97, 115, 105, 99] : Bytes) a 0 with
    | none => rfl
    | some p =>
      simp only []
      by_cases hgt : p + 6 > a.length
      · simp [hgt]
      · simp only [hgt, if_false]
        cases hu : findByte 58 (Auth.decode (List.drop (p + 6) a)) with
        | none => simp
        | some ue =>
          have hlt := findByte_lt hu
          simp only [Nat.not_lt_zero, if_false, List.drop_zero]
          cases Auth.tableFind (List.take ue (Auth.decode (List.drop (p + 6) a))) table with
          | none => simp
          | some pw =>
            have : ¬ (ue + 1 > (Auth.decode (List.drop (p + 6) a)).length) := Nat.not_lt.2 hlt
            simp [this]

theorem AU_authenticateValue (realm : Bytes) : GenAuth.authenticateValue realm = Auth.authenticateValue realm := by
  unfold GenAuth.authenticateValue Auth.authenticateValue
  split <;> simp

theorem AU_authenticate (hf : Bytes → Option Bytes) (table : Auth.Table) (realm : Bytes) :
    (GenAuth.isValid hf (fun u => Auth.tableFind u table)).map (fun ok => GenAuth.authenticate ok (GenAuth.authenticateValue realm))
      = some (Auth.authenticate table realm (hf GenAuth.lcAuthorization)) := by
  rw [AU_isValid, AU_authenticateValue]
  simp [GenAuth.authenticate, Auth.authenticate]

/-- the structural fact the table model rests on: `add_user` is one `insert` (first registration wins) -/
theorem AU_addUserIsInsert : GenAuth.addUserIsInsert = true := rfl

/-- non-vacuity: "dTpw" is base64 of "u:p" -/
example : GenAuth.isValid (fun k => if k = GenAuth.lcAuthorization then some (b!"Basic dTpw") else none)
    (fun u => Auth.tableFind u [(b!"u", b!"p")]) = some true := by decide
example : GenAuth.isValid (fun k => if k = GenAuth.lcAuthorization then some (b!"Basic dTpw") else none)
    (fun u => Auth.tableFind u [(b!"u", b!"q")]) = some false := by decide
end Via
