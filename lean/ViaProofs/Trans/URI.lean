import ViaGen.URI
import ViaProofs.Lemmas.Basic
/-
  `request_uri::request_uri` as it is in /repo NOW (ViaGen/URI.lean, tools/cxx2lean_uri.py; `size_t` with wrap-around,
  `npos` = 2^64 - 1) = the hand-written `Router.parseUri` used by C16, for every string shorter than `npos`
  (`std::string::max_size()` is far below that), and no exception leaves the constructor.
-/
namespace Via

theorem GenUri.winc_lt {a : Nat} (h : a < GenUri.npos) : GenUri.winc a = a + 1 :=
  Nat.mod_eq_of_lt (by unfold GenUri.npos at h; omega)

theorem GenUri.wsub_le {a b : Nat} (hb : b ≤ a) (ha : a ≤ GenUri.npos) : GenUri.wsub a b = a - b := by
  have h : a - b < 2 ^ 64 := Nat.lt_of_le_of_lt (Nat.le_trans (Nat.sub_le a b) ha) (by decide)
  rw [GenUri.wsub, Nat.add_comm, Nat.add_sub_assoc hb, Nat.add_mod_left, Nat.mod_eq_of_lt h]

/-- what the constructor's tests see of a character that is found, in a string shorter than `npos` -/
theorem GenUri.sfind_some {c : Byte} {s : Bytes} {i : Nat} (h : findByte c s = some i) (hl : s.length < GenUri.npos) :
    GenUri.sfind c s = i ∧ i < s.length ∧ i ≠ GenUri.npos ∧ ¬ s.length < i ∧ ¬ s.length < i + 1 ∧
      GenUri.winc i = i + 1 :=
  have hi := findByte_lt h
  ⟨by simp [GenUri.sfind, h], hi, Nat.ne_of_lt (Nat.lt_trans hi hl), Nat.not_lt.2 (Nat.le_of_lt hi), Nat.not_lt.2 hi,
    GenUri.winc_lt (Nat.lt_trans hi hl)⟩

theorem GenUri.sfind_none {c : Byte} {s : Bytes} (h : findByte c s = none) : GenUri.sfind c s = GenUri.npos := by
  simp [GenUri.sfind, h]

theorem URI_parse (uri : Bytes) (hlen : uri.length < 2 ^ 64 - 1) :
    GenUri.parse uri = some ((Router.parseUri uri).path, (Router.parseUri uri).query, (Router.parseUri uri).fragment) := by
  have hlen' : uri.length < GenUri.npos := hlen
  unfold GenUri.parse Router.parseUri
  cases hq : findByte 63 uri with
  | none =>
    have eq := GenUri.sfind_none hq
    cases hf : findByte 35 uri with
    | none => simp [hq, hf, eq, GenUri.sfind_none hf]
    | some f =>
      obtain ⟨ef, hfl, h1, h3, h5, h4⟩ := GenUri.sfind_some hf hlen'
      have h2 : ¬ GenUri.npos < f := Nat.not_lt.2 (Nat.le_of_lt (Nat.lt_trans hfl hlen'))
      simp [hq, hf, eq, ef, h4, h1, h2, h3, h5]
  | some q =>
    obtain ⟨eq, hql, -, g3, g5, g4⟩ := GenUri.sfind_some hq hlen'
    cases hf : findByte 35 uri with
    | none =>
      have ef := GenUri.sfind_none hf
      have hqn := Nat.lt_trans hql hlen'
      simp [hq, hf, eq, ef, hqn, g3, g4, g5, GenUri.wsub_le (Nat.succ_le_of_lt hqn) (Nat.le_refl _)]
      exact List.take_of_length_le
        (by rw [List.length_drop]; exact Nat.sub_le_sub_right (Nat.le_of_lt hlen') _)
    | some f =>
      obtain ⟨ef, hfl, h1, h3, h5, h4⟩ := GenUri.sfind_some hf hlen'
      by_cases hqf : q < f
      · simp [hq, hf, eq, ef, hqf, h1, h4, h5, g3, g4, g5,
          GenUri.wsub_le (Nat.succ_le_of_lt hqf) (Nat.le_of_lt (Nat.lt_trans hfl hlen'))]
      · simp [hq, hf, eq, ef, hqf, h1, h3, h4, h5]

/-- non-vacuity of `URI_parse` -/
example : GenUri.parse (b!"/a/b?x=1#frag") = some (b!"/a/b", b!"x=1", b!"frag") ∧ (b!"/a/b?x=1#frag").length < 2 ^ 64 - 1 := by
  decide
example : GenUri.parse (b!"/a#f?q") = some (b!"/a", [], b!"f?q") := by decide
end Via
