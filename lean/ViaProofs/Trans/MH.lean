import ViaGen.MH
import ViaProofs.Trans.FL
import ViaProofs.Frag.Headers
/-
  `message_headers::parse` as it is in /repo NOW (`ViaGen/MH.lean`, generated by tools/cxx2lean.py: the `while` loop with
  a fuel argument, the one-line accessors `field_line::started` / `length` / `name` / `value` it calls, `field_line::parse`
  through its own translation) = the model's `MH.parse`, a well-founded recursion in two phases (finish the field in
  progress, then the fresh-field loop), for every configuration, every input and every state satisfying `MH.FieldFresh`.
  The proof shows that the fuel never runs out.
-/
namespace Via

theorem Eol.lfStage_iter {S : Type} (E : Eol S) (y : S) (it : Bytes) :
    (if (it.isEmpty || (it.headD 0 != 10)) then (y, it, false) else (E.mark y, it.drop 1, true)) = E.lfStage y it := by
  cases it <;> rfl

/-- the line end (`Eol.crlf`: the blank line here, the end of the chunk data in `Trans.CK`) as the translator writes it:
    `*iter` is `headD 0`, `++iter` is `drop 1`, `iter == end` is `isEmpty` -/
theorem Eol.crlf_iter {S : Type} (E : Eol S) (strict : Bool) (x : S) (it : Bytes) :
    (if (!E.cr x && (it.headD 0 == 13)) then
       (if ((it.drop 1).isEmpty || ((it.drop 1).headD 0 != 10)) then (E.setCr x, it.drop 1, false)
        else (E.mark (E.setCr x), (it.drop 1).drop 1, true))
     else if (strict && !E.cr x) then (x, it, false)
     else if (it.isEmpty || (it.headD 0 != 10)) then (x, it, false)
     else (E.mark x, it.drop 1, true)) = E.crlf strict x it := by
  rw [Eol.lfStage_iter, Eol.lfStage_iter]
  cases it with
  | nil => simp [Eol.crlf, Eol.lfStage]
  | cons c cs => rfl

theorem MH_parseTail_translated (cfg : Cfg) (s : MH) (it : Bytes) : GenMH.parseTail cfg s it = MH.blank cfg s it := by
  cases it with
  | nil => rfl
  | cons c cs =>
    rw [MH.blank_eq, ← MH.eol.crlf_iter]
    rfl

theorem MH_parseLoop_line (cfg : Cfg) (fuel : Nat) (s : MH) (it : Bytes) (hb : s.blankCr = false)
    (hc : (!s.blankCr && !it.isEmpty && (decide (s.field.length > 0) || !isEol (it.headD 0))) = true)
    (hk : ∀ h : MH, h.field = {} → h.blankCr = false →
      GenMH.parseLoop cfg fuel h (FL.parse cfg s.field it).2.1 = MH.fresh cfg h (FL.parse cfg s.field it).2.1) :
    GenMH.parseLoop cfg (fuel + 1) s it = MH.finish cfg s (FL.parse cfg s.field it) := by
  rw [GenMH.parseLoop, if_pos hc, FL_parse_translated]
  generalize FL.parse cfg s.field it = r at hk ⊢
  obtain ⟨f, rest, ok⟩ := r
  cases ok
  · rfl
  · cases rest with
    | nil => rfl
    | cons d ds =>
      -- the commit, written out in the translation
      conv => rhs; simp only [MH.finish, MH.commit_snd, MH.commit_fst, Bool.not_not]
      rw [← hk]
      · dsimp only
        generalize (decide (s.length + (f.name.length + f.value.length) > cfg.maxHdrLen) ||
          decide (s.number + 1 > cfg.maxHdrNum)) = full
        cases full <;> rfl
      · rfl
      · exact hb

theorem MH_parseLoop_tail (cfg : Cfg) (fuel : Nat) (s : MH) (it : Bytes)
    (h : (!s.blankCr && !it.isEmpty && (decide (s.field.length > 0) || !isEol (it.headD 0))) = false) :
    GenMH.parseLoop cfg (fuel + 1) s it = MH.blank cfg s it := by
  rw [GenMH.parseLoop, h, MH_parseTail_translated]
  rfl

theorem MH_parseLoop_fresh (cfg : Cfg) (it : Bytes) (s : MH) (fuel : Nat) (hf : s.field = {}) (hb : s.blankCr = false)
    (hfuel : it.length + 1 ≤ fuel) : GenMH.parseLoop cfg fuel s it = MH.fresh cfg s it := by
  induction fuel generalizing it s with
  | zero => cases hfuel
  | succ k ih =>
    cases it with
    | nil => rw [MH.fresh_nil]; exact MH_parseLoop_tail cfg k s [] (by simp)
    | cons c cs =>
      rw [MH.fresh_cons]
      cases he : isEol c
      · -- the line consumes a byte, so the fuel that is left suffices for what it leaves
        have hpk : FL.parse cfg s.field (c :: cs) = FL.loop cfg {} (c :: cs) := by rw [hf]; rfl
        have hprog := FL.loop_progress cfg {} c cs (by decide)
        rw [MH_parseLoop_line cfg k s (c :: cs) hb (by simp [hb, he]), hpk]
        · rfl
        · rw [hpk]
          exact fun h hf hb' => ih _ h hf hb' (by simp only [List.length_cons] at hfuel; omega)
      · -- the blank line
        exact MH_parseLoop_tail cfg k s _ (by simp [hf, he])

/-- the state condition under which translation and model coincide; `MH.parse` preserves it because a field is only
    ever left in progress after at least one of its characters has been consumed -/
def MH.FieldFresh (s : MH) : Prop := s.field.started = false → s.field = {}

theorem MH_parse_translated (cfg : Cfg) (s : MH) (buf : Bytes) (hI : s.FieldFresh) :
    GenMH.parse cfg s buf = MH.parse cfg s buf := by
  unfold GenMH.parse
  cases hb : s.blankCr
  · cases hst : s.field.started
    · -- no field in progress
      rw [MH.parse_fresh cfg s buf hb hst]
      exact MH_parseLoop_fresh cfg buf s _ (hI hst) hb (by omega)
    · -- a field line is in progress from the previous read
      cases buf with
      | nil => rw [MH.parse_nil]; exact MH_parseLoop_tail cfg _ s [] (by simp)
      | cons c cs =>
        have hle : (FL.parse cfg s.field (c :: cs)).2.1.length ≤ (c :: cs).length := FL.loop_rest_le cfg _ _
        rw [MH.parse_started cfg s c cs hb hst]
        refine MH_parseLoop_line cfg _ s (c :: cs) hb (by simpa [hb, FL.started] using Or.inl hst) ?_
        exact fun h hf hb' => MH_parseLoop_fresh cfg _ h _ hf hb' (by simp only [List.length_cons] at hle ⊢; omega)
  · -- the CR of the blank line was the last byte of the previous read
    rw [MH.parse_blankCr cfg s buf hb]
    exact MH_parseLoop_tail cfg _ s buf (by simp [hb])

theorem MH.fieldFresh_init : ({} : MH).FieldFresh := fun _ => rfl

theorem MH.parse_fieldFresh (cfg : Cfg) (h : MH) (buf : Bytes) (hI : h.FieldFresh) : (MH.parse cfg h buf).1.FieldFresh := by
  refine MH.parse_ind cfg (fun h _ res => h.FieldFresh → res.1.FieldFresh) (fun _ hI => hI)
    (fun h buf hI => by unfold MH.FieldFresh; rw [MH.blank_field cfg h buf]; exact hI) ?_ ?_ ?_ h buf hI
  · -- the line has consumed a byte, so it counts as started
    intro h s c cs hs _ _ hns
    exact absurd ((MH.line_started cfg h s c cs hs).symm.trans hns) (by decide)
  · exact fun h s c cs _ _ _ _ _ _ => MH.commit_fst cfg h _ ▸ rfl
  · exact fun h s c cs res _ _ _ _ ih _ => ih fun _ => MH.commit_fst cfg h _ ▸ rfl

theorem Cmp.hdrs_fieldFresh {S : Type} {get : S → MH} {set : S → MH → S} {mark : S → S} (skip : Bool) (cfg : Cfg)
    (hgs : ∀ s h, get (set s h) = h) (hgm : ∀ s, get (mark s) = get s) (s : S) (buf : Bytes)
    (h : (get s).FieldFresh) : (get (Cmp.hdrs get set mark skip cfg s buf).1).FieldFresh := by
  have hp := MH.parse_fieldFresh cfg (get s) buf h
  exact Cmp.hdrs_ind _ _ (fun p => (get p.1).FieldFresh) s buf (fun _ => by rwa [hgm]) (fun _ => by rwa [hgs])
    fun _ => by rwa [hgm, hgs]

end Via
