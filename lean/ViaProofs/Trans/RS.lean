import ViaGen.RS
import ViaProofs.Trans.RR
import ViaProofs.Rx.Resp
/-
  `response_receiver::receive` (and `clear`) as they are in /repo NOW (ViaGen/RS.lean) = the model's `RS.receive`, for
  every configuration, input and receiver state satisfying `RS.Sane` (headers `FieldFresh`, chunk `Sane`), which holds
  for a fresh receiver and is preserved by `receive` and by what `http_client` does between calls (`RS.sane_closed`);
  hence over a whole read (`RS_readLoop_translated`).
-/
namespace Via

theorem GenRS_clear_eq (s : RS) : GenRS.clear s = s.clear := by
  cases s; rfl

structure RS.Sane (r : RS) : Prop where
  headers : r.response.headers.FieldFresh
  chunk : r.chunk.Sane

theorem RS.sane_init : ({} : RS).Sane := ⟨MH.fieldFresh_init, CK.sane_init⟩
theorem RS.clear_sane (r : RS) : r.clear.Sane := RS.sane_init

theorem RS_k1_translated (cfg : Cfg) (s : RS) (rp : Bool) (it : Bytes) (hs : s.chunk.Sane) :
    GenRS.receive_k1 cfg rp s it = RS.afterHead cfg s rp it := by
  unfold GenRS.receive_k1 RS.afterHead
  refine ite_congr rfl (fun _ => ?_) (fun _ => ?_)
  · refine ite_congr rfl (fun _ => rfl) (fun hneg => ?_)
    have hpos : 0 ≤ MH.contentLength s.response.headers := Int.not_lt.1 hneg
    -- `noCl`: bytes follow a head without Content-Length, so whatever arrives is body, up to `max_body_size_`
    -- (`cl2`); both sides still test completion against the header's value `cl`, the C++ through `size_t` (hence
    -- `nat_beq_toNat`)
    dsimp only
    generalize hcl : MH.contentLength s.response.headers = cl at hpos
    generalize hno : (decide ((it.length : Int) > 0) && (cl == 0) &&
      (Fields.find s.response.headers.fields ([99, 111, 110, 116, 101, 110, 116, 45, 108, 101, 110, 103, 116, 104] : Bytes)).isEmpty) = noCl
    generalize hcl2 : (if noCl = true then (cfg.maxContent : Int) else cl) = cl2
    by_cases hc : (it.length : Int) > cl2 - (s.body.length : Int)
    · simp only [hc, if_true, decide_true, Bool.true_and, GenRS.receive_k3, GenRS.receive_k2]
      cases noCl
      · simp only [Bool.false_eq_true, if_false, hcl, nat_beq_toNat _ _ hpos]
      · rfl
    · simp only [hc, if_false, decide_false, Bool.false_and, Bool.false_eq_true, GenRS.receive_k3, GenRS.receive_k2]
      cases it with
      | nil =>
        simp only [List.isEmpty_nil, Bool.not_true, Bool.false_eq_true, if_false, List.take_nil, List.drop_nil,
          List.append_nil, hcl, nat_beq_toNat _ _ hpos]
      | cons c cs =>
        simp only [List.isEmpty_cons, Bool.not_false, if_true, List.take_length, List.drop_length, hcl,
          nat_beq_toNat _ _ hpos]
  · -- the pair the translation carries through its first test is the state with a finished chunk dropped
    have hsit : (if s.chunk.valid then (({ s with chunk := {} } : RS), it) else (s, it)) = (RS.reset s, it) := by
      unfold RS.reset
      split <;> rfl
    have h0 : (RS.reset s).chunk.Sane := RS.reset_cases (P := fun x => x.chunk.Sane) s CK.sane_init fun _ => hs
    rw [hsit, ← RS.reset]
    generalize RS.reset s = r0 at h0 ⊢
    cases rp
    · dsimp only
      rw [CK_parse_translated cfg _ _ h0]
      generalize CK.parse cfg r0.chunk it = p
      obtain ⟨k, rest, ok⟩ := p
      cases ok <;> rfl
    · rfl

theorem RS_receive_translated (cfg : Cfg) (r : RS) (buf : Bytes) (h : r.Sane) :
    GenRS.receive cfg r buf = RS.receive cfg r buf := by
  rw [RS.receive_eq]
  unfold GenRS.receive
  simp only [GenRS_clear_eq, RP_parse_translated cfg _ _ h.headers, RP.fail, MH.fail]
  cases hv : r.response.valid
  · simp only [Bool.not_false, if_true]
    cases hp : (RP.parse cfg r.response buf).2.2
    · simp only [Bool.not_false, if_true]
      rfl
    · simp only [Bool.not_true, Bool.false_eq_true, if_false]
      exact RS_k1_translated cfg _ true _ h.chunk
  · simp only [Bool.not_true, Bool.false_eq_true, if_false]
    exact RS_k1_translated cfg r false buf h.chunk

theorem RP.parse_fieldFresh (cfg : Cfg) (q : RP) (buf : Bytes) (h : q.headers.FieldFresh) :
    (RP.parse cfg q buf).1.headers.FieldFresh := by
  rw [Cmp.RP_parse_eq]
  refine Cmp.seq2_ind _ _ _ _ _ (·.headers.FieldFresh) (·.1.headers.FieldFresh) (fun q buf h => ?_) ?_ q buf h
  · split <;> exact h
  · exact Cmp.hdrs_fieldFresh true cfg (fun _ _ => rfl) (fun _ => rfl)

theorem RS.sane_closed (cfg : Cfg) : RS.Closed cfg RS.Sane where
  fresh := RS.sane_init
  head r buf h _ _ := ⟨RP.parse_fieldFresh cfg r.response buf h.headers, h.chunk⟩
  body _ _ h := ⟨h.headers, h.chunk⟩
  newChunk _ h := ⟨h.headers, CK.sane_init⟩
  chunk r buf h _ _ := ⟨h.headers, CK.parse_sane cfg r.chunk buf h.chunk⟩

/-- the per-read loop of `http_client::receive_handler` (hand-written model) run with the TRANSLATED `receive` -/
def GenRS.readLoop (cfg : Cfg) : Nat → RS → Bytes → List RDelivery → RS × Bytes × List RDelivery
  | 0, r, buf, acc => (r, buf, acc.reverse)
  | fuel + 1, r, buf, acc =>
    if buf.isEmpty then (r, buf, acc.reverse)
    else
      let p := GenRS.receive cfg r buf
      let d : RDelivery := { rx := p.2.2, used := buf.length - p.2.1.length, snapshot := p.1 }
      let r' := RS.afterResult p.1 p.2.2
      if p.2.2 == .invalid then (r', p.2.1, (d :: acc).reverse)
      else GenRS.readLoop cfg fuel r' p.2.1 (d :: acc)

theorem GenRS.readLoop_eq (cfg : Cfg) (fuel : Nat) : ∀ (r : RS) (buf : Bytes) (acc : List RDelivery),
    GenRS.readLoop cfg fuel r buf acc =
      (Rcv.mk (GenRS.receive cfg) RS.afterResult).readLoop RDelivery.mk fuel r buf acc := by
  induction fuel with
  | zero => intro r buf acc; rfl
  | succ n ih => intro r buf acc; simp only [GenRS.readLoop, Rcv.readLoop, ih]; rfl

theorem RS_readLoop_translated (cfg : Cfg) : ∀ (fuel : Nat) (r : RS) (buf : Bytes) (acc : List RDelivery), r.Sane →
    GenRS.readLoop cfg fuel r buf acc = RS.readLoop cfg fuel r buf acc ∧ (RS.readLoop cfg fuel r buf acc).1.Sane := by
  intro fuel r buf acc h
  have step := (RS.sane_closed cfg).next
  rw [GenRS.readLoop_eq, RS.readLoop_eq]
  exact ⟨Rcv.readLoop_congr (RS.rcv cfg) RDelivery.mk ⟨GenRS.receive cfg, RS.afterResult⟩ step
    (fun r buf h => RS_receive_translated cfg r buf h) rfl fuel r buf acc h,
    Rcv.readLoop_inv (RS.rcv cfg) RDelivery.mk step fuel r buf acc h⟩

end Via
