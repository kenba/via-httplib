import ViaGen.FL
/-
  `field_line::parse_char` and `field_line::parse` as they are in /repo NOW (`ViaGen/FL.lean`, generated by
  tools/cxx2lean.py) = the model's `FL.parseChar` and `FL.parse`, for every configuration, state and input.
-/
namespace Via

theorem FL_parseChar_translated (cfg : Cfg) (s : FL) (c : Byte) : GenFL.parseChar cfg s c = FL.parseChar cfg s c := by
  unfold GenFL.parseChar FL.parseChar
  dsimp only
  -- both begin with the same length check; `t` is the state after it
  generalize (if s.length + 1 > cfg.maxLine then ({ s with length := s.length + 1, st := .errLength } : FL)
    else { s with length := s.length + 1 }) = t
  obtain ⟨name, value, length, ws, st, fail⟩ := t
  cases st <;> first
    | rfl
    | (repeat' split) <;> simp_all

/-- the fold look-ahead as the code writes it: `(iter != end) && std::isblank(*iter)` -/
theorem FL_peek_translated (s : FL) (it : Bytes) :
    (if (s.st == .valid) then (if ((!it.isEmpty) && (isBlank (it.headD 0))) then { s with value := s.value ++ [32], st := .valueLs } else s) else s) = s.peek it := by
  cases it with
  | nil => simp [FL.peek]
  | cons d ds => simp [FL.peek]; split <;> simp_all

theorem FL_parseLoop_translated (cfg : Cfg) (buf : Bytes) : ∀ s : FL,
    GenFL.parseLoop cfg s buf = FL.loop cfg s buf := by
  induction buf with
  | nil => intro s; simp [GenFL.parseLoop, FL.loop]
  | cons c cs ih =>
    intro s
    unfold GenFL.parseLoop FL.loop
    by_cases hv : s.st = .valid
    · simp [hv]
    · simp only [bne_iff_ne, ne_eq, hv, not_false_eq_true, ↓reduceIte, beq_iff_eq, FL_parseChar_translated]
      cases hr : (FL.parseChar cfg s c).2
      · simp
      · simp only [Bool.not_true, Bool.false_eq_true, ↓reduceIte]
        rw [ih, ← FL_peek_translated]
        simp

theorem FL_parse_translated (cfg : Cfg) (s : FL) (buf : Bytes) : GenFL.parse cfg s buf = FL.parse cfg s buf := by
  unfold GenFL.parse FL.parse
  rw [FL_parseLoop_translated, ← FL_peek_translated]
  congr 1
  cases h : s.st == .valid <;> simp

end Via
