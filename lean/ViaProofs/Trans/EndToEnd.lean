import ViaProofs.Roundtrip
import ViaProofs.Trans.ENC
import ViaProofs.Trans.RR
import ViaProofs.Trans.RS
/-
  C08 stated on the TRANSLATED source on both sides: what the encoder functions of /repo's current tree (as translated in
  ViaGen/ENC.lean) produce, its receiver functions (as translated in ViaGen/RR.lean, RS.lean, CK.lean) accept unchanged.
-/
namespace Via
namespace RT

theorem source_request_roundtrip (cfg : Cfg) (m u : Bytes) (maj min : Byte) (hs : HdrList) (body rest : Bytes)
    (ok : HeadOk cfg m u maj min (hs ++ [clLine body.length]))
    (needs : Enc.needsContentLength (encHeaders hs) = true)
    (hnocl : ∀ p ∈ hs, lowerBytes p.1 ≠ (b!"content-length"))
    (hte : (fieldsOf [] hs).find (b!"transfer-encoding") = [])
    (hhost : ¬ (maj = 49 ∧ min = 49) ∨ (fieldsOf [] hs).find (b!"host") ≠ [])
    (hfit : body.length ≤ cfg.maxContent) (hmax : body.length ≤ LONG_MAX) (htrace : m ≠ (b!"TRACE")) :
    GenRR.receive cfg {} (GenEnc.txRequestMessage m u maj min (encHeaders hs) body.length ++ (body ++ rest)) =
      (receivedRequest cfg m u maj min (hs ++ [clLine body.length]) body, rest, .valid) := by
  rw [ENC_txRequestMessage, RR_receive_translated cfg {} _ RR.sane_init]
  exact request_roundtrip cfg m u maj min hs body rest ok needs hnocl hte hhost hfit hmax htrace

theorem source_response_roundtrip (cfg : Cfg) (maj min : Byte) (status : Nat) (reason : Bytes) (hs : HdrList)
    (body rest : Bytes) (ok : RespHeadOk cfg maj min status reason (hs ++ [clLine body.length]))
    (permitted : Enc.contentPermitted (status : Int) = true)
    (needs : Enc.needsContentLength (encHeaders hs) = true)
    (hnocl : ∀ p ∈ hs, lowerBytes p.1 ≠ (b!"content-length"))
    (hte : (fieldsOf [] hs).find (b!"transfer-encoding") = [])
    (hmax : body.length ≤ LONG_MAX) :
    GenRS.receive cfg {} (GenEnc.txResponseMessage maj min (status : Int) reason (encHeaders hs) body.length ++ (body ++ rest)) =
      ({ response := parsedResponse maj min status reason (hs ++ [clLine body.length]), body := body }, rest, .valid) := by
  rw [ENC_txResponseMessage, RS_receive_translated cfg {} _ RS.sane_init]
  exact response_roundtrip cfg maj min status reason hs body rest ok permitted needs hnocl hte hmax

theorem source_chunk_roundtrip (cfg : Cfg) (ext data rest : Bytes) (hne : data ≠ [])
    (ok : ChunkHdrOk cfg data.length ext) :
    GenCK.parse cfg {} (GenEnc.chunkHeader (toHexString data.length) ext ++ (data ++ 13 :: 10 :: rest)) =
      ({ hdr := parsedChunkHdr data.length ext, data := data, valid := true, dataCr := true }, rest, true) := by
  rw [ENC_chunkHeader _ _ ENC_hexSize_fact, CK_parse_translated cfg {} _ CK.sane_init]
  exact chunk_roundtrip cfg ext data rest hne ok

theorem source_lastChunk_roundtrip (cfg : Cfg) (ext : Bytes) (ts : HdrList) (rest : Bytes)
    (ok : ChunkHdrOk cfg 0 ext) (hlines : ∀ p ∈ ts, LineOk cfg p.1 p.2)
    (hl : totalLen ts ≤ cfg.maxHdrLen) (hn : ts.length ≤ cfg.maxHdrNum) :
    GenCK.parse cfg {} (GenEnc.lastChunk ext (encHeaders ts) ++ rest) =
      ({ hdr := parsedChunkHdr 0 ext,
         trailers := { fields := fieldsOf [] ts, valid := true, blankCr := true, number := ts.length,
                       length := totalLen ts },
         valid := true }, rest, true) := by
  rw [ENC_lastChunk, CK_parse_translated cfg {} _ CK.sane_init]
  exact lastChunk_roundtrip cfg ext ts rest ok hlines hl hn

end RT
end Via
