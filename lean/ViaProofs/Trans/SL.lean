import ViaGen.SL
import ViaProofs.Frag.Lines
/-
  `response_line::parse_char` and `response_line::parse` as they are in /repo NOW (`ViaGen/SL.lean`, generated by
  tools/cxx2lean.py) = the model's `SL.parseChar` and `SL.parse`, for every configuration, state and input.
-/
namespace Via

theorem SL_parseChar_translated (cfg : Cfg) (s : SL) (c : Byte) : GenSL.parseChar cfg s c = SL.parseChar cfg s c := by
  obtain ⟨status, reason, major, minor, st, ws, statusRead, valid, fail⟩ := s
  cases st <;> first
    | rfl
    | (simp only [GenSL.parseChar, SL.parseChar]; repeat' split) <;> simp_all

theorem SL_parse_translated (cfg : Cfg) (s : SL) (buf : Bytes) : GenSL.parse cfg s buf = SL.parse cfg s buf := by
  rw [SL.parse_eq]
  refine Line.parse_unique (SL.line cfg) (GenSL.parseLoop cfg) (fun s => rfl) (fun s c cs => ?_) buf s
  rw [GenSL.parseLoop]
  by_cases hv : s.st = .valid
  · simp [hv, SL.line, SL.scan]
  · cases hr : (SL.parseChar cfg s c).2 <;> simp [hv, hr, SL_parseChar_translated, SL.line, SL.scan]

end Via
