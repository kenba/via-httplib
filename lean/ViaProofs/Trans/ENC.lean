import ViaGen.ENC
/-
  The encoders as they are in /repo NOW (ViaGen/ENC.lean, tools/cxx2lean_enc.py: `http_version`,
  `header_field::to_header / content_length / chunked_encoding`, `response_status::content_permitted`,
  `request_line::to_string`, `tx_request::message`, `response_line::to_string`, `tx_response::message`,
  `chunk_header::to_string`, `last_chunk::to_string`, `are_headers_split`, `tx_response::is_valid`) = the hand-written
  encoder model (`Via.Enc.*`, `areHeadersSplit`, `headersValid`) about which the round-trip theorems
  (`ViaProofs/Roundtrip.lean`), the C04 encoder algebra and C13 are stated.
-/
namespace Via

theorem ENC_httpVersion (maj min : Byte) : GenEnc.httpVersion maj min = Enc.httpVersion maj min := rfl

theorem ENC_toHeader (n v : Bytes) : GenEnc.toHeader n v = Enc.toHeader n v := rfl

theorem ENC_contentLengthHeader (n : Nat) : GenEnc.contentLengthHeader n = Enc.contentLengthHeader n := rfl

theorem ENC_chunkedEncodingHeader : GenEnc.chunkedEncodingHeader = Enc.chunkedEncodingHeader := rfl

theorem ENC_contentPermitted (st : Int) : GenEnc.contentPermitted st = Enc.contentPermitted st := by
  simp [GenEnc.contentPermitted, Enc.contentPermitted, Gen.contentPermittedFrom, Gen.contentNotPermitted, Bool.and_assoc]

theorem ENC_requestLine (m u : Bytes) (maj min : Byte) : GenEnc.requestLine m u maj min = Enc.requestLine m u maj min := by
  simp [GenEnc.requestLine, Enc.requestLine, ENC_httpVersion, Enc.crlf, Gen.cCRLF]

theorem ENC_needs (hs : Bytes) :
    (!(containsSub ([67, 111, 110, 116, 101, 110, 116, 45, 76, 101, 110, 103, 116, 104] : Bytes) hs) &&
      !(containsSub ([84, 114, 97, 110, 115, 102, 101, 114, 45, 69, 110, 99, 111, 100, 105, 110, 103] : Bytes) hs)) =
    Enc.needsContentLength hs := rfl

theorem ENC_txRequestMessage (m u : Bytes) (maj min : Byte) (hs : Bytes) (cl : Nat) :
    GenEnc.txRequestMessage m u maj min hs cl = Enc.txRequestMessage m u maj min hs cl := by
  simp only [GenEnc.txRequestMessage, Enc.txRequestMessage, ENC_requestLine, ENC_contentLengthHeader, ENC_needs]
  cases Enc.needsContentLength hs <;> simp [Enc.crlf, Gen.cCRLF]

theorem ENC_responseLine (maj min : Byte) (st : Int) (r : Bytes) : GenEnc.responseLine maj min st r = Enc.responseLine maj min st r := by
  simp [GenEnc.responseLine, Enc.responseLine, ENC_httpVersion, Enc.crlf, Gen.cCRLF]

theorem ENC_txResponseMessage (maj min : Byte) (st : Int) (r hs : Bytes) (cl : Nat) :
    GenEnc.txResponseMessage maj min st r hs cl = Enc.txResponseMessage maj min st r hs cl := by
  simp only [GenEnc.txResponseMessage, Enc.txResponseMessage, ENC_responseLine, ENC_contentLengthHeader, ENC_needs,
    ENC_contentPermitted]
  cases Enc.needsContentLength hs <;> cases Enc.contentPermitted st <;> simp [Enc.crlf, Gen.cCRLF]

/-- `chunk_header(size, ext).to_string()`: the hex size member is `to_hex_string(size)` (extracted fact) -/
theorem ENC_chunkHeader (n : Nat) (ext : Bytes) (_h : GenEnc.hexSizeFromToHexString = true) :
    GenEnc.chunkHeader (toHexString n) ext = Enc.chunkHeader n ext := by
  simp only [GenEnc.chunkHeader, Enc.chunkHeader]
  cases ext <;> simp [Enc.crlf, Gen.cCRLF]

theorem ENC_hexSize_fact : GenEnc.hexSizeFromToHexString = true := by decide

theorem ENC_lastChunk (ext tr : Bytes) : GenEnc.lastChunk ext tr = Enc.lastChunk ext tr := by
  simp only [GenEnc.lastChunk, Enc.lastChunk]
  cases ext <;> simp [Enc.crlf, Gen.cCRLF]

theorem ENC_splitLoop (h : Bytes) : ∀ prev pprev : Byte, GenEnc.split.loop prev pprev h = splitLoop prev pprev h := by
  induction h with
  | nil => intro prev pprev; rfl
  | cons c cs ih =>
    intro prev pprev
    simp only [GenEnc.split.loop, splitLoop, ih]
    cases c == 10 <;> cases prev == 10 <;> cases (prev == 13 && pprev == 10) <;> rfl

theorem ENC_areHeadersSplit (h : Bytes) : GenEnc.areHeadersSplit h = areHeadersSplit h := by
  unfold GenEnc.areHeadersSplit areHeadersSplit
  cases h with
  | nil => rfl
  | cons c cs => simp only [List.isEmpty_cons, Bool.not_false, if_true]; exact ENC_splitLoop _ _ _

theorem ENC_headersValid (h : Bytes) : GenEnc.headersValid h = headersValid h := by
  simp [GenEnc.headersValid, headersValid, ENC_areHeadersSplit]

end Via
