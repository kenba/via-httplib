import ViaProofs.Statements
import ViaModel.HashMapConc
/-
  C18 (sequential part) — `threadsafe_hash_map` run by one thread is an ordinary map (`C18_seq`).

  A bucket is a sorted association list searched by `lower_bound`; `bucket_split` says once what `lowerBound` finds in a
  sorted bucket and what the three bucket operations are on the two pieces around it.  `MInv` (the right number of
  buckets, every key in the bucket its hash selects, every bucket sorted) is kept by every operation (`modify_spec`),
  and under it `find` / `data` read the same pairs as the specification's list (`Sim`, `step_sim`).
-/
namespace Via
open HM

variable {V : Type}

theorem valueFor_cons (k k' : Nat) (v' : V) (r : Bucket V) :
    valueFor ((k', v') :: r) k =
      if k' < k then valueFor r k else if k' = k then some (k', v') else none := by
  by_cases h : k' < k <;> simp [valueFor, lowerBound, h]

theorem addOrUpdate_cons (k k' : Nat) (v v' : V) (r : Bucket V) :
    addOrUpdate ((k', v') :: r) k v =
      if k' < k then (k', v') :: addOrUpdate r k v
      else if k' = k then (k, v) :: r else (k, v) :: (k', v') :: r := by
  by_cases h : k' < k
  · simp only [addOrUpdate, lowerBound, h, ↓reduceIte, List.getElem?_cons_succ]
    cases r[lowerBound k r]? with
    | none => simp
    | some q => by_cases h2 : q.1 == k <;> simp [h2]
  · by_cases h2 : k' = k <;> simp [addOrUpdate, lowerBound, h, h2]

theorem removeMapping_cons (k k' : Nat) (v' : V) (r : Bucket V) :
    removeMapping ((k', v') :: r) k =
      if k' < k then (k', v') :: removeMapping r k else if k' = k then r else (k', v') :: r := by
  by_cases h : k' < k
  · simp only [removeMapping, lowerBound, h, ↓reduceIte, List.getElem?_cons_succ]
    cases r[lowerBound k r]? with
    | none => simp
    | some q => by_cases h2 : q.1 == k <;> simp [h2]
  · by_cases h2 : k' = k <;> simp [removeMapping, lowerBound, h, h2]

def SortedB {V} (b : Bucket V) : Prop := b.Pairwise (fun p q => p.1 < q.1)

theorem bucket_split {b : Bucket V} (hs : SortedB b) (k : Nat) :
    ∃ lo hi, ∃ o : Option V, b = lo ++ (o.map (k, ·)).toList ++ hi ∧ (∀ p ∈ lo, p.1 < k) ∧ (∀ p ∈ hi, k < p.1) ∧
      valueFor b k = o.map (k, ·) ∧ (∀ v, addOrUpdate b k v = lo ++ (k, v) :: hi) ∧ removeMapping b k = lo ++ hi := by
  induction b with
  | nil => exact ⟨[], [], none, rfl, by simp, by simp, rfl, fun _ => rfl, rfl⟩
  | cons q r ih =>
    obtain ⟨k', v'⟩ := q
    obtain ⟨hq, hr⟩ := List.pairwise_cons.1 hs
    rw [valueFor_cons, removeMapping_cons]
    rcases Nat.lt_trichotomy k' k with h | rfl | h
    · obtain ⟨lo, hi, o, e, hlo, hhi, e1, e2, e3⟩ := ih hr
      refine ⟨(k', v') :: lo, hi, o, by rw [e]; rfl, fun p hp => ?_, hhi, by rw [if_pos h, e1],
        fun v => by rw [addOrUpdate_cons, if_pos h, e2]; rfl, by rw [if_pos h, e3]; rfl⟩
      rcases List.mem_cons.1 hp with rfl | hp
      · exact h
      · exact hlo p hp
    · exact ⟨[], r, some v', rfl, nofun, hq, by rw [if_neg (Nat.lt_irrefl _), if_pos rfl]; rfl,
        fun v => by rw [addOrUpdate_cons, if_neg (Nat.lt_irrefl _), if_pos rfl]; rfl,
        by rw [if_neg (Nat.lt_irrefl _), if_pos rfl]; rfl⟩
    · refine ⟨[], (k', v') :: r, none, rfl, nofun, fun p hp => ?_,
        by rw [if_neg (Nat.lt_asymm h), if_neg (Nat.ne_of_gt h)]; rfl,
        fun v => by rw [addOrUpdate_cons, if_neg (Nat.lt_asymm h), if_neg (Nat.ne_of_gt h)]; rfl,
        by rw [if_neg (Nat.lt_asymm h), if_neg (Nat.ne_of_gt h)]; rfl⟩
      rcases List.mem_cons.1 hp with rfl | hp
      · exact h
      · exact Nat.lt_trans h (hq p hp)

theorem valueFor_iff {b : Bucket V} (hs : SortedB b) (k : Nat) (p : Nat × V) :
    valueFor b k = some p ↔ p ∈ b ∧ p.1 = k := by
  obtain ⟨lo, hi, o, rfl, hlo, hhi, e, -, -⟩ := bucket_split hs k
  rw [e]
  constructor
  · intro h
    exact ⟨by simp [h], by cases o <;> simp at h; rw [← h]⟩
  · rintro ⟨h, rfl⟩
    simp only [List.mem_append, Option.mem_toList] at h
    rcases h with (h | h) | h
    · exact absurd (hlo p h) (Nat.lt_irrefl _)
    · exact h
    · exact absurd (hhi p h) (Nat.lt_irrefl _)

theorem removeMapping_spec {b : Bucket V} (hs : SortedB b) (k : Nat) :
    SortedB (removeMapping b k) ∧ ∀ p, p ∈ removeMapping b k ↔ p ∈ b ∧ p.1 ≠ k := by
  obtain ⟨lo, hi, o, rfl, hlo, hhi, -, -, e⟩ := bucket_split hs k
  rw [e]
  refine ⟨hs.sublist (by simp), fun p => ?_⟩
  simp only [List.mem_append, Option.mem_toList]
  constructor
  · rintro (h | h)
    · exact ⟨.inl (.inl h), Nat.ne_of_lt (hlo p h)⟩
    · exact ⟨.inr h, Nat.ne_of_gt (hhi p h)⟩
  · rintro ⟨(h | h) | h, hne⟩
    · exact .inl h
    · cases o <;> simp at h; exact absurd (by rw [← h]) hne
    · exact .inr h

theorem addOrUpdate_spec {b : Bucket V} (hs : SortedB b) (k : Nat) (v : V) :
    SortedB (addOrUpdate b k v) ∧ ∀ p, p ∈ addOrUpdate b k v ↔ p = (k, v) ∨ (p ∈ b ∧ p.1 ≠ k) := by
  obtain ⟨hs', hm⟩ := removeMapping_spec hs k
  obtain ⟨lo, hi, o, rfl, hlo, hhi, -, e, e'⟩ := bucket_split hs k
  rw [e']  at hs' hm
  rw [e]
  obtain ⟨slo, shi, hlh⟩ := List.pairwise_append.1 hs'
  refine ⟨List.pairwise_append.2 ⟨slo, List.pairwise_cons.2 ⟨hhi, shi⟩, fun a ha c hc => ?_⟩, fun p => ?_⟩
  · rcases List.mem_cons.1 hc with rfl | hc
    · exact hlo a ha
    · exact hlh a ha c hc
  · rw [← hm]; simp [or_left_comm]

theorem sorted_nodup {b : Bucket V} (hs : SortedB b) : b.Nodup :=
  List.nodup_iff_pairwise_ne.2 (hs.imp fun h e => by rw [e] at h; exact Nat.lt_irrefl _ h)

theorem getD_modify_self {α} {l : List α} {i : Nat} {f : α → α} {d : α} (h : i < l.length) :
    (l.modify i f).getD i d = f (l.getD i d) := by
  simp [h]

theorem getD_modify_ne {α} {l : List α} {i j : Nat} {f : α → α} {d : α} (h : i ≠ j) :
    (l.modify i f).getD j d = l.getD j d := by
  simp [h]

def MInv {V} (m : Map V) : Prop :=
  m.buckets.length = m.n ∧ 0 < m.n ∧
  ∀ i b, m.buckets[i]? = some b → SortedB b ∧ ∀ p ∈ b, m.hash p.1 % m.n = i

def KeysNodup {V} (l : SpecMap V) : Prop := l.Pairwise (fun p q => p.1 ≠ q.1)

theorem idx_lt {m : Map V} (h : MInv m) (k : Nat) : m.idx k < m.buckets.length := by
  unfold Map.idx; rw [h.1]; exact Nat.mod_lt _ h.2.1

theorem getD_bucket {m : Map V} (h : MInv m) (k : Nat) :
    m.buckets[m.idx k]? = some (m.buckets.getD (m.idx k) []) := by
  simp [idx_lt h k]

theorem bucket_sorted {m : Map V} (h : MInv m) (k : Nat) : SortedB (m.buckets.getD (m.idx k) []) :=
  (h.2.2 _ _ (getD_bucket h k)).1

theorem mem_data_iff {m : Map V} (h : MInv m) (p : Nat × V) :
    p ∈ m.data ↔ p ∈ m.buckets.getD (m.idx p.1) [] := by
  unfold Map.data
  rw [List.mem_flatten]
  constructor
  · rintro ⟨b, hb, hp⟩
    obtain ⟨i, hi⟩ := List.mem_iff_getElem?.1 hb
    have e : m.idx p.1 = i := (h.2.2 i b hi).2 p hp
    rw [List.getD_eq_getElem?_getD, e, hi]; exact hp
  · exact fun hp => ⟨_, List.mem_iff_getElem?.2 ⟨_, getD_bucket h p.1⟩, hp⟩

theorem find_iff {m : Map V} (h : MInv m) (k : Nat) (p : Nat × V) :
    m.find k = some p ↔ (p ∈ m.data ∧ p.1 = k) := by
  rw [Map.find, valueFor_iff (bucket_sorted h k), mem_data_iff h p]
  constructor <;> rintro ⟨a, rfl⟩ <;> exact ⟨a, rfl⟩

theorem data_nodup {m : Map V} (h : MInv m) : m.data.Nodup := by
  rw [Map.data, List.Nodup, List.pairwise_flatten]
  refine ⟨fun b hb => ?_, List.pairwise_iff_getElem.2 fun i j hi hj hij p hp q hq e => ?_⟩
  · obtain ⟨i, hi⟩ := List.mem_iff_getElem?.1 hb
    exact sorted_nodup (h.2.2 i b hi).1
  · have h1 := (h.2.2 i _ (List.getElem?_eq_getElem hi)).2 p hp
    have h2 := (h.2.2 j _ (List.getElem?_eq_getElem hj)).2 q hq
    rw [e] at h1; omega

theorem empty_inv (n : Nat) (hash : Nat → Nat) (hn : 0 < n) : MInv (Map.empty (V := V) n hash) := by
  refine ⟨by simp [Map.empty], hn, fun i b hi => ?_⟩
  cases List.eq_of_mem_replicate (List.mem_of_getElem? hi)
  exact ⟨List.Pairwise.nil, by simp⟩

theorem modify_spec {m : Map V} (h : MInv m) (k : Nat) (f : Bucket V → Bucket V) (new : Bucket V)
    (hnew : ∀ p ∈ new, p.1 = k)
    (hf : ∀ b, SortedB b → SortedB (f b) ∧ ∀ p, p ∈ f b ↔ p ∈ new ∨ (p ∈ b ∧ p.1 ≠ k)) :
    MInv { m with buckets := m.buckets.modify (m.idx k) f } ∧
    ∀ p, p ∈ ({ m with buckets := m.buckets.modify (m.idx k) f } : Map V).data ↔ p ∈ new ∨ (p ∈ m.data ∧ p.1 ≠ k) := by
  have hinv : MInv { m with buckets := m.buckets.modify (m.idx k) f } := by
    refine ⟨by simp [h.1], h.2.1, fun i b hb => ?_⟩
    rw [List.getElem?_modify] at hb
    obtain ⟨b0, hb0, rfl⟩ := Option.map_eq_some_iff.1 hb
    obtain ⟨hs, hk⟩ := h.2.2 i b0 hb0
    split
    · rename_i e
      refine ⟨(hf b0 hs).1, fun p hp => ?_⟩
      rcases ((hf b0 hs).2 p).1 hp with hn | ⟨hp, -⟩
      · rw [hnew p hn]; exact e
      · exact hk p hp
    · exact ⟨hs, hk⟩
  refine ⟨hinv, fun p => ?_⟩
  rw [mem_data_iff hinv, mem_data_iff h]
  show p ∈ (m.buckets.modify (m.idx k) f).getD (m.idx p.1) [] ↔ _
  by_cases e : m.idx p.1 = m.idx k
  · rw [e, getD_modify_self (idx_lt h k), (hf _ (bucket_sorted h k)).2]
  · rw [getD_modify_ne (Ne.symm e)]
    constructor
    · exact fun hp => .inr ⟨hp, fun x => e (by rw [x])⟩
    · rintro (hn | ⟨hp, -⟩)
      · exact absurd (by rw [hnew p hn]) e
      · exact hp

theorem insert_spec {m : Map V} (h : MInv m) (k : Nat) (v : V) :
    MInv (m.insert k v) ∧ ∀ p, p ∈ (m.insert k v).data ↔ p = (k, v) ∨ (p ∈ m.data ∧ p.1 ≠ k) := by
  have := modify_spec h k (addOrUpdate · k v) [(k, v)] (by simp)
    (fun b hb => by simpa only [List.mem_singleton] using addOrUpdate_spec hb k v)
  simp only [List.mem_singleton] at this
  exact this

theorem erase_spec {m : Map V} (h : MInv m) (k : Nat) :
    MInv (m.erase k) ∧ ∀ p, p ∈ (m.erase k).data ↔ p ∈ m.data ∧ p.1 ≠ k := by
  have := modify_spec h k (removeMapping · k) [] (by simp)
    (fun b hb => by simpa only [List.not_mem_nil, false_or] using removeMapping_spec hb k)
  simp only [List.not_mem_nil, false_or] at this
  exact this

theorem clear_inv {m : Map V} (h : MInv m) : MInv m.clear := by
  refine ⟨by simp [Map.clear, h.1], h.2.1, fun i b hi => ?_⟩
  simp only [Map.clear, List.getElem?_map] at hi
  obtain ⟨-, -, rfl⟩ := Option.map_eq_some_iff.1 hi
  exact ⟨List.Pairwise.nil, by simp⟩

theorem clear_data (m : Map V) : m.clear.data = [] := by
  simp only [Map.clear, Map.data, List.flatten_eq_nil_iff, List.mem_map]
  rintro l ⟨_, _, rfl⟩; rfl

def Sim {V} (m : Map V) (l : SpecMap V) : Prop :=
  MInv m ∧ KeysNodup l ∧ ∀ p, p ∈ m.data ↔ p ∈ l

theorem spec_find_iff {l : SpecMap V} (hl : KeysNodup l) (k : Nat) (p : Nat × V) :
    l.find? (fun q => q.1 == k) = some p ↔ (p ∈ l ∧ p.1 = k) := by
  induction l with
  | nil => simp
  | cons q r ih =>
    obtain ⟨hq, hr⟩ := List.pairwise_cons.1 hl
    rw [List.find?_cons]
    by_cases h : q.1 = k
    · simp only [h, beq_self_eq_true, Option.some.injEq, List.mem_cons]
      constructor
      · rintro rfl; exact ⟨.inl rfl, h⟩
      · rintro ⟨rfl | a, b⟩
        · rfl
        · exact absurd (h.trans b.symm) (hq p a)
    · simp only [beq_eq_false_iff_ne.2 h, ih hr, List.mem_cons]
      constructor
      · rintro ⟨a, b⟩; exact ⟨.inr a, b⟩
      · rintro ⟨rfl | a, b⟩
        · exact absurd b h
        · exact ⟨a, b⟩

theorem step_sim {m : Map V} {l : SpecMap V} (h : Sim m l) (op : Op V) :
    Sim (m.step op).1 (l.step op).1 ∧ ResRel (m.step op).2 (l.step op).2 := by
  obtain ⟨hi, hk, hm⟩ := h
  have hfilter : ∀ k, KeysNodup (l.filter (fun p => p.1 != k)) := fun k => hk.sublist List.filter_sublist
  cases op with
  | insert k v =>
    refine ⟨⟨(insert_spec hi k v).1, List.pairwise_cons.2 ⟨fun q hq => ?_, hfilter k⟩, fun p => ?_⟩, rfl⟩
    · exact fun e => by simpa [show q.1 = k from e.symm] using (List.mem_filter.1 hq).2
    · simp [SpecMap.step, Map.step, (insert_spec hi k v).2, hm]
  | erase k =>
    refine ⟨⟨(erase_spec hi k).1, hfilter k, fun p => ?_⟩, rfl⟩
    simp [SpecMap.step, Map.step, (erase_spec hi k).2, hm]
  | find k =>
    refine ⟨⟨hi, hk, hm⟩, congrArg Res.found (Option.ext fun p => ?_)⟩
    rw [find_iff hi, spec_find_iff hk, hm]
  | isEmpty =>
    refine ⟨⟨hi, hk, hm⟩, congrArg Res.bool ?_⟩
    rw [Bool.eq_iff_iff, List.isEmpty_iff, List.eq_nil_iff_forall_not_mem]
    simp only [Map.isEmpty, List.all_eq_true, List.isEmpty_iff, List.eq_nil_iff_forall_not_mem, ← hm, Map.data,
      List.mem_flatten, not_exists, not_and]
    exact ⟨fun a p b hb => a b hb p, fun a b hb p => a p b hb⟩
  | data => exact ⟨⟨hi, hk, hm⟩, (List.perm_ext_iff_of_nodup (data_nodup hi)
      (List.nodup_iff_pairwise_ne.2 (hk.imp fun h e => h (by rw [e])))).2 hm⟩
  | clear => exact ⟨⟨clear_inv hi, List.Pairwise.nil, fun p => by rw [show (m.step .clear).1.data = [] from clear_data m]; rfl⟩, rfl⟩

theorem run_sim (ops : List (Op V)) : ∀ (m : Map V) (l : SpecMap V), Sim m l →
    ResListRel (m.run ops).2 (SpecMap.run l ops).2 := by
  induction ops with
  | nil => intro m l _; simp [Map.run, SpecMap.run, ResListRel]
  | cons op ops ih =>
    intro m l h
    obtain ⟨h1, h2⟩ := step_sim h op
    simp only [Map.run, SpecMap.run, ResListRel]
    exact ⟨h2, ih _ _ h1⟩

theorem C18_seq : C18_seq_statement := by
  intro V n hash ops hn
  apply run_sim
  exact ⟨empty_inv n hash hn, by simp [KeysNodup], by simp [Map.empty, Map.data]⟩

theorem removeMapping_absent (b : Bucket V) (k : Nat) (h : valueFor b k = none) : removeMapping b k = b := by
  unfold valueFor at h
  unfold removeMapping
  simp only []
  cases hb : b[lowerBound k b]? with
  | none => rfl
  | some q =>
    rw [hb] at h
    cases hq : q.1 == k <;> simp_all

theorem modify_eq_self_of_getD {α} (l : List α) (i : Nat) (f : α → α) (d : α) (h : f (l.getD i d) = l.getD i d) :
    l.modify i f = l := by
  refine List.ext_getElem? fun j => ?_
  rw [List.getElem?_modify]
  cases hj : l[j]? with
  | none => rfl
  | some a =>
    refine congrArg some ?_
    split
    · subst j; rw [List.getD_eq_getElem?_getD, hj] at h; exact h
    · rfl

theorem erase_absent (m : Map V) (k : Nat) (habs : m.find k = none) : m.erase k = m :=
  congrArg (Map.mk m.n m.hash) (modify_eq_self_of_getD _ _ _ [] (removeMapping_absent _ k habs))

/-- erase of an absent key leaves every lookup unchanged (the defect repaired in `remove_mapping`) -/
theorem erase_absent_noop {V} (m : Map V) (h : MInv m) (k : Nat) (habs : m.find k = none) (k' : Nat) :
    (m.erase k).find k' = m.find k' := by
  rw [erase_absent m k habs]

/-- non-vacuity: a three-operation history on a one-bucket map (maximal collision) -/
example : ((Map.empty (V := Nat) 1 (fun k => k)).run [.insert 1 10, .insert 3 30, .erase 2, .find 3]).2
    = [.unit, .unit, .unit, .found (some (3, 30))] := by decide

end Via

namespace Via

/-- structural facts about the C++ on which the two map models rest (re-extracted from
    threadsafe_hash_map.hpp on every run): `remove_mapping` compares the key at the `lower_bound` position while it
    holds the bucket's exclusive lock, and every bucket operation takes the lock before it touches the data -/
theorem C18_erase_compares_key_under_lock : Gen.eraseComparesKey = true := by decide

theorem C18_lock_discipline : Gen.bucketOpsTakeLockFirst = true := by decide

/-! ### operations on different buckets commute

  Under the lock discipline re-extracted from the source (`C18_lock_discipline`) two single-bucket operations of
  which one writes can overlap in time only when they work on DIFFERENT buckets; such operations commute, state and results
  (`C18_commute_distinct_buckets`).  (`C18Conc.lean` proves linearizability directly on the interleaving model; it
  uses `step_single` below, not the commutation.) -/

open HM

inductive KeyOp (V : Type) where
  | insert (k : Nat) (v : V) | erase (k : Nat) | find (k : Nat)

def KeyOp.key {V} : KeyOp V → Nat
  | .insert k _ => k | .erase k => k | .find k => k

def KeyOp.op {V} : KeyOp V → Op V
  | .insert k v => .insert k v | .erase k => .erase k | .find k => .find k

namespace HM
open Conc

theorem step_single {V} (m : Map V) (op : Op V) (k : Nat) (hk : key? op = some k) :
    (m.step op).1 = { m with buckets := m.buckets.modify (m.idx k) (bucketFn op) } ∧
    (m.step op).2 = resOf op [m.buckets.getD (m.idx k) []] := by
  cases op <;> cases hk
  · exact ⟨rfl, rfl⟩
  · exact ⟨rfl, rfl⟩
  · exact ⟨congrArg (Map.mk m.n m.hash) (List.modify_id _ _).symm, rfl⟩

end HM

theorem C18_commute_distinct_buckets {V} (m : Map V) (o1 o2 : KeyOp V) (hb : m.idx o1.key ≠ m.idx o2.key) :
    ((m.step o1.op).1.step o2.op).1 = ((m.step o2.op).1.step o1.op).1 ∧
    ((m.step o1.op).1.step o2.op).2 = (m.step o2.op).2 ∧
    ((m.step o2.op).1.step o1.op).2 = (m.step o1.op).2 := by
  have hk : ∀ o : KeyOp V, Conc.key? o.op = some o.key := fun o => by cases o <;> rfl
  obtain ⟨a1, r1⟩ := step_single m o1.op _ (hk o1)
  obtain ⟨a2, r2⟩ := step_single m o2.op _ (hk o2)
  obtain ⟨a12, r12⟩ := step_single (m.step o1.op).1 o2.op _ (hk o2)
  obtain ⟨a21, r21⟩ := step_single (m.step o2.op).1 o1.op _ (hk o1)
  rw [a12, a21, r12, r21, r1, r2, a1, a2]
  simp only [Map.idx] at hb ⊢
  exact ⟨by rw [List.modify_modify_ne _ _ _ hb], by rw [getD_modify_ne hb],
    by rw [getD_modify_ne hb.symm]⟩

end Via
