import ViaModel.Chunk
/-
  C08 — what the encoders produce, the library's own receivers accept unchanged.

  Proved here: number round trips (`to_hex_string` / `from_hex_string`, `std::to_string` / `from_dec_string`) and
  that EVERY header name of the `header_field::id` enumeration (table regenerated from the header on every run) is
  accepted by the header-name acceptor and lower-cases to its `lowercase_name`.  The round trips of lines, chunk
  headers and whole messages are in `Roundtrip.lean`.
-/
namespace Via
namespace C08

theorem hexDigitVal_lowHex : ∀ d : Fin 16, hexDigitVal (lowHex d.val) = d.val := by decide
theorem isXDigit_lowHex : ∀ d : Fin 16, isXDigit (lowHex d.val) = true := by decide
theorem isDigit_lowHex : ∀ d : Fin 10, isDigit (lowHex d.val) = true := by decide

theorem digitsVal_snoc (base : Nat) (ds : Bytes) (c : Byte) :
    digitsVal base (ds ++ [c]) = digitsVal base ds * base + hexDigitVal c := by
  simp [digitsVal, List.foldl_append]

theorem digitsVal_le_append (base : Nat) (hb : 0 < base) (ds es : Bytes) :
    digitsVal base ds ≤ digitsVal base (ds ++ es) := by
  simp only [digitsVal, List.foldl_append]
  generalize List.foldl _ 0 ds = a
  induction es generalizing a with
  | nil => exact Nat.le_refl _
  | cons e es ih =>
    exact Nat.le_trans (Nat.le_trans (Nat.le_mul_of_pos_right a hb) (Nat.le_add_right _ _)) (ih _)

theorem toDigitsAux_spec (base : Nat) (hb : 2 ≤ base) (hb16 : base ≤ 16) (P : Byte → Prop)
    (hP : ∀ d, d < base → P (lowHex d)) :
    ∀ (fuel n : Nat) (acc : Bytes), n < fuel →
      ∃ ds, toDigitsAux base hb fuel n acc = ds ++ acc ∧ ds ≠ [] ∧ (∀ c ∈ ds, P c) ∧ digitsVal base ds = n := by
  intro fuel
  induction fuel with
  | zero => intro n acc h; omega
  | succ fuel ih =>
    intro n acc hf
    unfold toDigitsAux
    by_cases hn : n < base
    · refine ⟨[lowHex n], by simp [hn], by simp, by simpa using hP n hn, ?_⟩
      simpa [digitsVal] using hexDigitVal_lowHex ⟨n, Nat.lt_of_lt_of_le hn hb16⟩
    · have hmod : n % base < base := Nat.mod_lt _ (Nat.lt_of_lt_of_le Nat.zero_lt_two hb)
      obtain ⟨ds, h1, _, h3, h4⟩ := ih (n / base) (lowHex (n % base) :: acc)
        (by have := Nat.div_lt_self (by omega : 0 < n) (by omega : 1 < base); omega)
      refine ⟨ds ++ [lowHex (n % base)], by simp [hn, h1], by simp, ?_, ?_⟩
      · intro c hc
        rcases List.mem_append.mp hc with hc | hc
        · exact h3 c hc
        · simpa [List.mem_singleton.1 hc] using hP _ hmod
      · rw [digitsVal_snoc, h4, show hexDigitVal (lowHex (n % base)) = n % base from hexDigitVal_lowHex ⟨_, Nat.lt_of_lt_of_le hmod hb16⟩]
        exact Nat.div_add_mod' n base

theorem toDigitsAux_length (base : Nat) (hb : 2 ≤ base) :
    ∀ (fuel n : Nat) (acc : Bytes) (k : Nat), n < base ^ (k + 1) →
      (toDigitsAux base hb fuel n acc).length ≤ k + 1 + acc.length := by
  intro fuel
  induction fuel with
  | zero => intro n acc k _; simp [toDigitsAux]
  | succ fuel ih =>
    intro n acc k hk
    unfold toDigitsAux
    by_cases hn : n < base
    · simp [hn]; omega
    · simp only [hn, if_false]
      cases k with
      | zero => simp at hk; omega
      | succ k =>
        have : n / base < base ^ (k + 1) := by
          apply Nat.div_lt_of_lt_mul
          rw [Nat.pow_succ, Nat.mul_comm] at hk
          exact hk
        have := ih (n / base) (lowHex (n % base) :: acc) k this
        simp at this ⊢
        omega

theorem hex_digits (n : Nat) :
    toHexString n ≠ [] ∧ (∀ c ∈ toHexString n, isXDigit c = true) ∧ digitsVal 16 (toHexString n) = n := by
  obtain ⟨ds, h1, h⟩ := toDigitsAux_spec 16 (by decide) (by decide) (isXDigit · = true)
    (fun d hd => isXDigit_lowHex ⟨d, hd⟩) (n + 1) n [] (by omega)
  rwa [toHexString, h1, List.append_nil]

theorem dec_digits (n : Nat) :
    toDecString n ≠ [] ∧ (∀ c ∈ toDecString n, isDigit c = true) ∧ digitsVal 10 (toDecString n) = n := by
  obtain ⟨ds, h1, h⟩ := toDigitsAux_spec 10 (by decide) (by decide) (isDigit · = true)
    (fun d hd => isDigit_lowHex ⟨d, hd⟩) (n + 1) n [] (by omega)
  rwa [toDecString, h1, List.append_nil]

theorem hex_length (n : Nat) (h : n ≤ LONG_MAX) : (toHexString n).length ≤ 16 := by
  have := toDigitsAux_length 16 (by decide) (n + 1) n [] 15 (by simp [LONG_MAX] at h ⊢; omega)
  simpa [toHexString] using this

end C08

theorem intToDecString_natCast (n : Nat) : intToDecString (n : Int) = toDecString n := by
  simp [intToDecString]

theorem hex_roundtrip (n : Nat) (h : n ≤ LONG_MAX) : fromHexString (toHexString n) = (n : Int) := by
  obtain ⟨h1, h2, h3⟩ := C08.hex_digits n
  simp [fromHexString, h1, List.all_eq_true.2 h2, h3, Nat.not_lt.mpr h]

theorem dec_roundtrip (n : Nat) (h : n ≤ LONG_MAX) : fromDecString (toDecString n) = (n : Int) := by
  obtain ⟨h1, h2, h3⟩ := C08.dec_digits n
  simp [fromDecString, h1, List.all_eq_true.2 h2, h3, Nat.not_lt.mpr h]

theorem C08.chunkSizeOf_hex (n : Nat) (h : n ≤ LONG_MAX) : chunkSizeOf (toHexString n) = n := by
  simp [chunkSizeOf, hex_roundtrip n h]
  omega

/-- a byte the `field_line` parser accepts in a header name -/
def nameByteOk (c : Byte) : Bool := isGraph c && !isSeparator c

/-- every standard header name is a valid field name for the library's own parser, and parses to the lower-case
    name the library looks it up by (this re-opens whenever a header constant is edited) -/
theorem std_names_parse :
    ∀ p ∈ Gen.headerNames, p.1.all nameByteOk = true ∧ p.1.map toLower = p.2 ∧ p.1 ≠ [] := by
  decide +kernel

/-- the names the library adds by itself -/
theorem own_headers_parse :
    Gen.cHEADER_CONTENT_LENGTH.all nameByteOk = true ∧ Gen.cHEADER_TRANSFER_ENCODING.all nameByteOk = true ∧
    Gen.cHEADER_CONTENT_LENGTH.map toLower = Gen.cLC_CONTENT_LENGTH ∧
    Gen.cHEADER_TRANSFER_ENCODING.map toLower = Gen.cLC_TRANSFER_ENCODING ∧
    Gen.cHEADER_DATE.all nameByteOk = true ∧ Gen.cHEADER_SERVER.all nameByteOk = true ∧
    Gen.cHEADER_CONTENT_TYPE.all nameByteOk = true ∧ Gen.cHEADER_ALLOW.all nameByteOk = true ∧
    Gen.cHEADER_WWW_AUTHENTICATE.all nameByteOk = true ∧ Gen.cHEADER_HOST.all nameByteOk = true := by
  decide +kernel

end Via
