import ViaModel.SimDriver
/-
  Theorems about the connection-layer model (`ViaModel/Conn.lean`, `SimDriver.lean`): two history invariants, walked
  through the model once.

  The lifecycle half `aux_CIS` (C10 / C11) and the write half `WConn` (C03 / C09 / C19) read disjoint fields and neither
  needs the other.  So there is one lemma `cinv_f` per model function `f`, about `CInv a b`: the lifecycle half under the
  switch `a : Prop`, the write half under `b : Prop`; a hypothesis that only one half needs stands under that half's
  switch (`hin : a → ..`, `hp : b → WcbPre ..`).  Each proof is a term that follows the body of `f`.

  `Inv ∧ Settled` alone is NOT inductive over arbitrary worlds (`simOp_inv_original_false`), so the history theorems
  go through `InvS` (= `Inv ∧ Settled ∧ HsFresh ∧ HeldConnected`, `InvS_iff`).
-/
namespace Via.Sim
open Via

theorem aux_get_upd_self {w : World} {i : Nat} {f : Conn → Conn} (hi : i < w.conns.length) :
    (w.upd i f).get i = f (w.get i) := by
  simp [World.get, World.upd, List.getD_eq_getElem?_getD, hi]

theorem aux_get_upd_ne {w : World} {i j : Nat} {f : Conn → Conn} (h : j ≠ i) :
    (w.upd i f).get j = w.get j := by
  simp [World.get, World.upd, List.getD_eq_getElem?_getD, Ne.symm h]

theorem aux_upd_oob {w : World} {i : Nat} {f : Conn → Conn} (h : w.conns.length ≤ i) :
    w.upd i f = w := by
  simp [World.upd, List.modify_eq_self h]

theorem aux_get_oob {w : World} {i : Nat} (h : w.conns.length ≤ i) : w.get i = {} := by
  simp [World.get, List.getD_eq_getElem?_getD, List.getElem?_eq_none h]

theorem aux_lt_of_connected {w : World} {i : Nat} (h : (w.get i).connected = true) : i < w.conns.length :=
  Decidable.byContradiction fun hi => by rw [aux_get_oob (Nat.le_of_not_lt hi)] at h; cases h

@[simp] theorem aux_get_emit (w : World) (s : String) (i : Nat) : (w.emit s).get i = w.get i := rfl
@[simp] theorem aux_conns_emit (w : World) (s : String) : (w.emit s).conns = w.conns := rfl
@[simp] theorem aux_opts_emit (w : World) (s : String) : (w.emit s).opts = w.opts := rfl
@[simp] theorem aux_opts_upd (w : World) (i : Nat) (f : Conn → Conn) : (w.upd i f).opts = w.opts := rfl
@[simp] theorem aux_len_upd (w : World) (i : Nat) (f : Conn → Conn) :
    (w.upd i f).conns.length = w.conns.length := by simp [World.upd]

theorem aux_get_mem_or (w : World) (i : Nat) : w.get i ∈ w.conns ∨ w.get i = {} := by
  unfold World.get
  rw [List.getD_eq_getElem?_getD]
  cases h : w.conns[i]? with
  | none => right; rfl
  | some c => left; exact List.mem_of_getElem? h

theorem aux_mem_upd {w : World} {i : Nat} {f : Conn → Conn} {c : Conn} (hc : c ∈ (w.upd i f).conns) :
    c ∈ w.conns ∨ (i < w.conns.length ∧ c = f (w.get i)) := by
  rcases List.mem_iff_getElem.1 hc with ⟨j, hj, rfl⟩
  have hj' : j < w.conns.length := by simpa using hj
  simp only [World.upd, List.getElem_modify]
  split
  · next h => subst h; right; exact ⟨hj', by simp [World.get, List.getD_eq_getElem?_getD, hj']⟩
  · left; exact List.getElem_mem hj'

theorem aux_get_upd_pres (P : Conn → Prop) {w : World} {i : Nat} {f : Conn → Conn} (k : Nat)
    (hf : ∀ c, P c → P (f c)) (h : P (w.get k)) : P ((w.upd i f).get k) := by
  by_cases hk : k = i
  · subst hk
    by_cases hi : k < w.conns.length
    · rw [aux_get_upd_self hi]; exact hf _ h
    · rw [aux_upd_oob (Nat.le_of_not_lt hi)]; exact h
  · rw [aux_get_upd_ne hk]; exact h

theorem aux_get_upd_est (P : Conn → Prop) {w : World} {i : Nat} {f : Conn → Conn}
    (hf : ∀ c, P (f c)) (hd : P {}) : P ((w.upd i f).get i) := by
  by_cases hi : i < w.conns.length
  · rw [aux_get_upd_self hi]; exact hf _
  · rw [aux_upd_oob (Nat.le_of_not_lt hi), aux_get_oob (Nat.le_of_not_lt hi)]; exact hd

theorem aux_get_map_pres (P : Conn → Prop) {w w' : World} {g : Conn → Conn} (hc : w'.conns = w.conns.map g)
    (hg : ∀ c, P c → P (g c)) (k : Nat) (h : P (w.get k)) : P (w'.get k) := by
  simp only [World.get, List.getD_eq_getElem?_getD, hc, List.getElem?_map] at h ⊢
  cases hk : w.conns[k]? <;> simp only [hk, Option.map, Option.getD] at h ⊢
  · exact h
  · exact hg _ h

/-- per connection: lifecycle events are paired and ordered, and the server's two collections agree with what is
    alive -/
def ConnInv (c : Conn) : Prop :=
  c.connectedSeen ≤ 1 ∧ c.disconnectedSeen ≤ c.connectedSeen ∧ c.otherAfterDisc = 0 ∧
  (c.inHttp = true → c.connectedSeen = 1 ∧ c.disconnectedSeen = 0 ∧ c.inComms = true ∧ c.httpAlive = true) ∧
  (c.inComms = true → c.alive = true) ∧
  (c.httpAlive = true → c.alive = true) ∧
  (c.connectedSeen = 0 → c.inHttp = false)

def Inv (w : World) : Prop := ∀ c ∈ w.conns, ConnInv c

/-- after an operation has finished (objects nobody owns are destroyed): retained = open -/
def Settled (w : World) : Prop := ∀ c ∈ w.conns, (c.alive = true → c.inComms = true)

/-- per connection: `ConnInv` plus "a stored handshake completion belongs to a connection the application has
    not seen yet" and "the server holds an http_connection only for a connection whose handshake completed" -/
def aux_CIS (c : Conn) : Prop :=
  ConnInv c ∧ ((c.hsStored = true → c.connectedSeen = 0) ∧ (c.inHttp = true → c.connected = true))

/-- `aux_CIS` with named clauses: a `cconn_*` lemma about a lifecycle field re-proves only the clauses that read it -/
structure Life (c : Conn) : Prop where
  seenOnce : c.connectedSeen ≤ 1
  discAfter : c.disconnectedSeen ≤ c.connectedSeen
  quiet : c.otherAfterDisc = 0
  held : c.inHttp = true → c.connectedSeen = 1 ∧ c.disconnectedSeen = 0 ∧ c.inComms = true ∧ c.httpAlive = true
  commsAlive : c.inComms = true → c.alive = true
  httpAlive : c.httpAlive = true → c.alive = true
  unseen : c.connectedSeen = 0 → c.inHttp = false
  fresh : c.hsStored = true → c.connectedSeen = 0
  heldConn : c.inHttp = true → c.connected = true

theorem life_iff {c : Conn} : Life c ↔ aux_CIS c :=
  ⟨fun ⟨h1, h2, h3, h4, h5, h6, h7, h8, h9⟩ => ⟨⟨h1, h2, h3, h4, h5, h6, h7⟩, h8, h9⟩,
   fun ⟨⟨h1, h2, h3, h4, h5, h6, h7⟩, h8, h9⟩ => ⟨h1, h2, h3, h4, h5, h6, h7, h8, h9⟩⟩

theorem aux_cis_inHttp_alive {c : Conn} (h : aux_CIS c) (hh : c.inHttp = true) : c.alive = true :=
  (life_iff.2 h).commsAlive ((life_iff.2 h).held hh).2.2.1

def aux_InvC (w : World) : Prop := ∀ c ∈ w.conns, aux_CIS c

def InvS (w : World) : Prop := aux_InvC w ∧ Settled w

/-- per connection: at most one write is in flight, a write in flight implies `transmitting_`, a stored
    (asynchronous, TLS) shutdown completion implies `shutdown_sent_` -/
def WConn (c : Conn) : Prop :=
  c.writes.length ≤ 1 ∧ (c.writes ≠ [] → c.transmitting = true) ∧ (c.shutStored = true → c.shutdownSent = true)

def WInv (w : World) : Prop := ∀ c ∈ w.conns, WConn c

/-- when `write_callback` may clear `transmitting_`: nothing else is in flight, or it is not a successful completion
    (an error completion never reaches the branch that clears the flag; the disjunct lets `Pres.writeCb` be stated
    for every `err`), or the shutdown has been sent (then it only signals DISCONNECTED) -/
def WcbPre (w : World) (i : Nat) (err : Option Err) : Prop :=
  (w.get i).writes = [] ∨ err.isSome = true ∨ (w.get i).shutdownSent = true

def CConn (a b : Prop) (c : Conn) : Prop := (a → aux_CIS c) ∧ (b → WConn c)

def CInv (a b : Prop) (w : World) : Prop := ∀ c ∈ w.conns, CConn a b c

theorem cinv_aux {w : World} : CInv True False w ↔ aux_InvC w :=
  ⟨fun h c hc => (h c hc).1 trivial, fun h c hc => ⟨fun _ => h c hc, False.elim⟩⟩

theorem cinv_w {w : World} : CInv False True w ↔ WInv w :=
  ⟨fun h c hc => (h c hc).2 trivial, fun h c hc => ⟨False.elim, fun _ => h c hc⟩⟩

theorem cinv_both {w : World} : CInv True True w ↔ aux_InvC w ∧ WInv w :=
  ⟨fun h => ⟨fun c hc => (h c hc).1 trivial, fun c hc => (h c hc).2 trivial⟩, fun h c hc => ⟨fun _ => h.1 c hc, fun _ => h.2 c hc⟩⟩

/-- With too little fuel the lifecycle half fails: `commsEvent 1 w i 2` removes the connection from `connections_`
    although the disconnected handler has not run (`httpEvent` with fuel 0 is the identity).  So a lemma whose function
    reaches `commsEvent` asks `Fuel a k fuel` for the call depth `k` of its function: one more than the largest depth
    among its callees, starting at 2 for `commsEvent`.  The write half is kept with any fuel (`a := False`). -/
def Fuel (a : Prop) (k fuel : Nat) : Prop := a → k ≤ fuel

theorem Fuel.pred {a : Prop} {k k' n : Nat} (h : Fuel a k (n + 1)) (hk : k' < k := by decide) : Fuel a k' n :=
  fun ha => by have := h ha; omega

theorem Fuel.mono {a : Prop} {k k' n : Nat} (h : Fuel a k n) (hk : k' ≤ k := by decide) : Fuel a k' n :=
  fun ha => Nat.le_trans hk (h ha)

theorem Fuel.top {a : Prop} {k : Nat} (h : k ≤ FUEL := by decide) : Fuel a k FUEL := fun _ => h

section
variable {a b : Prop} {w : World} {i fuel : Nat}

theorem cconn_default : CConn a b ({} : Conn) := by simp [CConn, WConn, aux_CIS, ConnInv]

theorem CConn.life {c c' : Conn} (h : CConn a b c) (f : a → Life c → Life c') (hw : WConn c → WConn c') :
    CConn a b c' :=
  ⟨fun ha => life_iff.1 (f ha (life_iff.2 (h.1 ha))), fun hb => hw (h.2 hb)⟩

theorem CConn.imp {c c' : Conn} (h : CConn a b c) (h1 : aux_CIS c → aux_CIS c') (h2 : WConn c → WConn c') :
    CConn a b c' :=
  ⟨fun ha => h1 (h.1 ha), fun hb => h2 (h.2 hb)⟩

/-- the fields the invariant reads.  An update that leaves them alone (`fun _ => rfl`) is a frame; going through this
    tuple keeps the unifier from comparing the new value of an unread field (a whole response head, say) with the old. -/
abbrev Conn.core (c : Conn) :=
  (c.writes, c.transmitting, c.shutStored, c.shutdownSent, c.hsStored, c.connected, c.alive, c.inComms, c.httpAlive,
    c.inHttp, c.connectedSeen, c.disconnectedSeen, c.otherAfterDisc)

theorem CConn.of_core {c c' : Conn} (e : c'.core = c.core) (h : CConn a b c) : CConn a b c' := by
  simp only [Conn.core, Prod.mk.injEq] at e
  obtain ⟨e1, e2, e3, e4, e5, e6, e7, e8, e9, e10, e11, e12, e13⟩ := e
  simpa only [CConn, WConn, aux_CIS, ConnInv, e1, e2, e3, e4, e5, e6, e7, e8, e9, e10, e11, e12, e13] using h

theorem CInv.get (h : CInv a b w) (i : Nat) : CConn a b (w.get i) := by
  rcases aux_get_mem_or w i with h1 | h1
  · exact h _ h1
  · rw [h1]; exact cconn_default

theorem CInv.life (h : CInv a b w) (ha : a) (i : Nat) : Life (w.get i) := life_iff.2 ((h.get i).1 ha)

theorem CInv.upd {f : Conn → Conn} (h : CInv a b w) (hf : CConn a b (w.get i) → CConn a b (f (w.get i))) :
    CInv a b (w.upd i f) := by
  intro c hc
  rcases aux_mem_upd hc with h1 | ⟨_, rfl⟩
  · exact h c h1
  · exact hf (h.get i)

theorem CInv.frame {f : Conn → Conn} (h : CInv a b w) (hf : ∀ c, (f c).core = c.core) : CInv a b (w.upd i f) :=
  h.upd (CConn.of_core (hf _))

theorem CInv.emit (h : CInv a b w) (s : String) : CInv a b (w.emit s) := h

theorem CInv.conns {w' : World} (h : CInv a b w) (hc : w'.conns = w.conns) : CInv a b w' := by
  unfold CInv; rw [hc]; exact h

/-- two updates of one connection, where the state between them does not satisfy the invariant -/
theorem CInv.upd2 {f g : Conn → Conn} {s : String} (h : CInv a b w)
    (hf : CConn a b (w.get i) → CConn a b (g (f (w.get i)))) : CInv a b (((w.upd i f).emit s).upd i g) :=
  (h.upd (f := g ∘ f) hf).conns (by simp [World.upd, World.emit, List.modify_modify_eq])

/-- A conditional is walked with this, or with `iteInduction` where the property is another, and not with `split`,
    which is slow on goals that hold a whole function body. -/
theorem CInv.ite {c : Prop} [Decidable c] {x y : World} (hx : c → CInv a b x) (hy : ¬c → CInv a b y) :
    CInv a b (if c then x else y) :=
  iteInduction hx hy

theorem CInv.ite1 {c : Prop} [Decidable c] {x y : World × Bool} (hx : c → CInv a b x.1) (hy : ¬c → CInv a b y.1) :
    CInv a b (if c then x else y).1 :=
  iteInduction (motive := fun r : World × Bool => CInv a b r.1) hx hy

theorem CInv.map {g : Conn → Conn} (h : CInv a b w) (hg : ∀ c ∈ w.conns, CConn a b c → CConn a b (g c)) :
    CInv a b { w with conns := w.conns.map g } :=
  List.forall_mem_map.2 fun c hc => hg c hc (h c hc)

theorem cinv_sendData {bufs : List Buf} (h : CInv a b w) : CInv a b (sendData w i bufs).1 := by
  dsimp only [sendData]
  refine .ite1 (fun _ => h) fun ht => .ite1 (fun _ => h.upd fun hc => hc.imp id fun ⟨_, h2, h3⟩ => ?_) fun _ => h
  have hw : (w.get i).writes = [] := Decidable.byContradiction fun hne => ht (h2 hne)
  exact ⟨by simp [hw], fun _ => rfl, h3⟩

theorem cconn_close {c : Conn} (h : CConn a b c) :
    CConn a b { dropPendingIo c with sockOpen := false, hsStored := false, shutStored := false } := by
  exact h.life (fun _ h => { h with fresh := nofun }) fun _ => ⟨Nat.zero_le _, fun hne => absurd rfl hne, nofun⟩

theorem cinv_closeConn (h : CInv a b w) : CInv a b (closeConn w i) := by
  dsimp only [closeConn]
  exact .ite (fun _ => h) fun _ => h.upd cconn_close

theorem cinv_enableReception (h : CInv a b w) : CInv a b (enableReception w i) :=
  h.frame fun _ => rfl

/-! ### the mutual block, in the order of the real call depth -/

theorem cinv_sendPlain {bufs : List Buf} (h : CInv a b w) : CInv a b (httpSendPlain fuel w i bufs).1 := by
  cases fuel <;> dsimp only [httpSendPlain]
  · exact h
  · exact .ite1 (fun _ => h) fun _ => cinv_sendData h

theorem cinv_sendChunk {d ext : Bytes} {bo : Bool} (h : CInv a b w) :
    CInv a b (httpSendChunk fuel w i d ext bo).1 := by
  cases fuel <;> dsimp only [httpSendChunk]
  · exact h
  · exact .ite1 (fun _ => cinv_sendPlain (h.frame fun _ => rfl))
      fun _ => cinv_sendPlain (.frame (h.frame fun _ => rfl) fun _ => rfl)

theorem cinv_lastChunk {ext tr : Bytes} (h : CInv a b w) : CInv a b (httpLastChunk fuel w i ext tr).1 := by
  cases fuel <;> dsimp only [httpLastChunk]
  · exact h
  · exact cinv_sendPlain (h.frame fun _ => rfl)

theorem serverClose_conns (n : Nat) (w : World) (bo : Bool) :
    (serverClose (n + 1) w bo).conns = w.conns.map fun c => { c with inHttp := c.inHttp && !bo, inComms := false } := by
  dsimp only [serverClose]
  cases bo <;> simp only [Bool.false_eq_true, ↓reduceIte] <;> split <;> simp [List.map_map, Function.comp_def]

theorem cconn_httpOut {c : Conn} (h : CConn a b c) : CConn a b { c with inHttp := false } :=
  h.life (fun _ h => { h with held := nofun, unseen := fun _ => rfl, heldConn := nofun }) id

theorem cconn_commsOut {c : Conn} (h : CConn a b c) (hh : a → c.inHttp = false) : CConn a b { c with inComms := false } :=
  h.life (fun ha h => { h with held := fun h1 => absurd h1 (by simp [hh ha]), commsAlive := nofun }) id

theorem cinv_serverClose {bo : Bool} (h : CInv a b w)
    (hg : bo = false → ∀ c ∈ w.conns, c.inHttp = false) : CInv a b (serverClose fuel w bo) := by
  cases fuel with
  | zero => exact h
  | succ n =>
    refine (h.map (g := fun c => { c with inHttp := c.inHttp && !bo, inComms := false }) fun c hc hcc => ?_).conns
      (serverClose_conns n w bo)
    cases bo <;> simp only [Bool.not_false, Bool.and_true, Bool.not_true, Bool.and_false]
    · exact cconn_commsOut hcc fun _ => hg rfl c hc
    · exact cconn_commsOut (cconn_httpOut hcc) fun _ => rfl

theorem cconn_note {c : Conn} (h : CConn a b c) (hh : a → c.inHttp = true) :
    CConn a b { c with otherAfterDisc := c.otherAfterDisc + (if c.disconnectedSeen > 0 then 1 else 0) } :=
  h.life (fun ha h => { h with quiet := by simp [h.quiet, (h.held (hh ha)).2.1] }) id

theorem cinv_noteEvent (h : CInv a b w) (hin : a → (w.get i).inHttp = true) : CInv a b (w.noteEvent i) :=
  h.upd fun hc => cconn_note hc hin

theorem cconn_disc {c : Conn} (h : CConn a b c) (hh : c.inHttp = true) :
    CConn a b { c with disconnectedSeen := c.disconnectedSeen + 1, inHttp := false } := by
  refine h.life (fun _ h => ?_) id
  obtain ⟨c1, c2, _, _⟩ := h.held hh
  exact { h with discAfter := by simp [c1, c2], held := nofun, unseen := fun _ => rfl, heldConn := nofun }

theorem cinv_httpEvent {ev : Nat} (hev : ev ≠ 0) (h : CInv a b w) : CInv a b (httpEvent fuel w i ev) := by
  cases fuel <;> dsimp only [httpEvent]
  · exact h
  refine .ite (fun _ => h) fun _ => .ite (fun h0 => absurd (beq_iff_eq.1 h0) hev) fun _ => .ite (fun _ => h) fun hin => ?_
  have hin : (w.get i).inHttp = true := by simpa using hin
  refine .ite (fun _ => .ite (fun _ => ?_) fun _ => h) fun _ => ?_
  · -- message sent: the next item of the scripted chunked answer
    have h1 : CInv a b ((w.noteEvent i).emit s!"ev sent {cn i}") := cinv_noteEvent h fun _ => hin
    split
    · exact h1
    · split
      · exact cinv_lastChunk (h1.frame fun _ => rfl)
      · exact cinv_sendChunk (h1.frame fun _ => rfl)
  · -- disconnected
    have h2 := h.upd2 (i := i) (s := s!"ev disconnected {cn i}")
      (f := fun c => { c with disconnectedSeen := c.disconnectedSeen + 1 }) (g := fun c => { c with inHttp := false })
      fun hc => cconn_disc hc hin
    refine .ite (fun hc => cinv_serverClose h2 fun _ c hc' => ?_) fun _ => h2
    simp only [Bool.and_eq_true, List.all_eq_true] at hc
    simpa using hc.2 c hc'

theorem httpEvent_disc_post (n : Nat) (hd : (w.get i).inHttp = true → (w.get i).alive = true) :
    ((httpEvent (n + 1) w i 2).get i).inHttp = false := by
  dsimp only [httpEvent]
  have e0 : ((2 : Nat) == 0) = false := rfl
  have e1 : ((2 : Nat) == 1) = false := rfl
  simp only [e0, e1, Bool.false_eq_true, ↓reduceIte]
  refine iteInduction (motive := fun w' : World => (w'.get i).inHttp = false)
      (fun ha => Decidable.byContradiction fun hh => by rw [hd (by simpa using hh)] at ha; cases ha) fun _ =>
    iteInduction (motive := fun w' : World => (w'.get i).inHttp = false) (fun hin => by simpa using hin) fun _ => ?_
  have hb : ((((w.upd i fun c => { c with disconnectedSeen := c.disconnectedSeen + 1 }).emit
      s!"ev disconnected {cn i}").upd i fun c => { c with inHttp := false }).get i).inHttp = false :=
    aux_get_upd_est (fun c => c.inHttp = false) (fun _ => rfl) rfl
  refine iteInduction (motive := fun w' : World => (w'.get i).inHttp = false) (fun _ => ?_) fun _ => hb
  cases n with
  | zero => exact hb
  | succ m =>
    exact aux_get_map_pres (fun c => c.inHttp = false) (serverClose_conns m _ false) (fun c hc => by simp [hc]) i hb

theorem cinv_commsEvent (ev : Nat) (hev : ev ≠ 0) (hf : Fuel a 2 fuel) (h : CInv a b w) :
    CInv a b (commsEvent fuel w i ev) := by
  cases fuel <;> dsimp only [commsEvent]
  · exact h
  next n =>
  have h1 : CInv a b (httpEvent n w i ev) := cinv_httpEvent hev h
  refine .ite (fun he => h1.upd fun hc => cconn_commsOut hc fun ha => ?_) fun _ => h1
  obtain ⟨m, rfl⟩ : ∃ m, n = m + 1 := ⟨n - 1, by have := hf ha; omega⟩
  obtain rfl : ev = 2 := by simpa using he
  exact httpEvent_disc_post m (aux_cis_inHttp_alive ((h.get i).1 ha))

/-! The cycle `shutdown → write_callback → signal_error_or_disconnect → shutdown` is cut by what each caller knows: the
ssl flavour of `shutdown` calls nothing, and the tcp flavour completes with an error code. -/

theorem cconn_shutSent {c : Conn} (h : CConn a b c) : CConn a b { c with shutdownSent := true } :=
  h.imp id fun h => ⟨h.1, h.2.1, fun _ => rfl⟩

theorem cconn_drop {c : Conn} (h : CConn a b c) (hs : c.shutdownSent = true) :
    CConn a b { dropPendingIo c with shutStored := true } :=
  h.imp id fun _ => ⟨Nat.zero_le _, fun hne => absurd rfl hne, fun _ => hs⟩

theorem cinv_shutdown_ssl (hs : w.opts.flavour = .ssl) (h : CInv a b w) :
    CInv a b (shutdownConn fuel w i) := by
  cases fuel <;> simp only [shutdownConn, aux_opts_emit, aux_opts_upd, hs]
  · exact h
  · exact h.upd2 fun hc => cconn_drop (cconn_shutSent hc) rfl

theorem cinv_seod {e : Err} (hf : Fuel a 3 fuel) (h : CInv a b w) :
    CInv a b (signalErrorOrDisconnect fuel w i e) := by
  cases fuel <;> dsimp only [signalErrorOrDisconnect]
  · exact h
  refine .ite (fun hc => cinv_shutdown_ssl ?_ h) fun _ =>
    .ite (fun _ => cinv_commsEvent 2 (by decide) hf.pred h) fun _ => h
  simp only [Bool.and_eq_true, adaptorIsDisconnect, beq_iff_eq] at hc
  exact hc.2.1.1

theorem cinv_writeCallback_err {e : Err} (hf : Fuel a 4 fuel) (h : CInv a b w) :
    CInv a b (writeCallback fuel w i (some e)) := by
  cases fuel <;> dsimp only [writeCallback]
  · exact h
  exact .ite (fun _ => h) fun _ =>
    .ite (fun _ => cinv_commsEvent 2 (by decide) hf.pred h) fun _ =>
      cinv_seod hf.pred h

theorem cinv_shutdown (hf : Fuel a 5 fuel) (h : CInv a b w) : CInv a b (shutdownConn fuel w i) := by
  cases hfl : w.opts.flavour
  · cases fuel <;> simp only [shutdownConn, aux_opts_emit, aux_opts_upd, hfl]
    · exact h
    · exact cinv_writeCallback_err hf.pred (h.upd cconn_shutSent)
  · exact cinv_shutdown_ssl hfl h

theorem cinv_writeCallback {err : Option Err} (hf : Fuel a 6 fuel) (hp : b → WcbPre w i err)
    (h : CInv a b w) : CInv a b (writeCallback fuel w i err) := by
  cases err with
  | some e => exact cinv_writeCallback_err hf.mono h
  | none =>
    cases fuel <;> dsimp only [writeCallback]
    · exact h
    refine .ite (fun _ => h) fun _ =>
      .ite (fun _ => cinv_commsEvent 2 (by decide) hf.pred h) fun hss =>
        .ite (fun _ => cinv_shutdown hf.pred h) fun _ =>
          cinv_commsEvent 1 (by decide) hf.pred
            (h.upd fun hc => ⟨hc.1, fun hb => ?_⟩)
    have hw : (w.get i).writes = [] := by
      rcases hp hb with hp | hp | hp
      · exact hp
      · cases hp
      · exact absurd hp hss
    exact ⟨by simp [hw], by simp [hw], (hc.2 hb).2.2⟩

theorem cinv_disconnect (hf : Fuel a 6 fuel) (h : CInv a b w) : CInv a b (disconnectConn fuel w i) := by
  cases fuel <;> dsimp only [disconnectConn]
  · exact h
  · exact .ite (fun _ => cinv_shutdown hf.pred h) fun _ => h.frame fun _ => rfl

theorem cinv_sendTail {bufs : List Buf} {bo : Bool} (hf : Fuel a 7 fuel) (h : CInv a b w) :
    CInv a b (httpSendTail fuel w i bufs bo).1 := by
  cases fuel <;> dsimp only [httpSendTail]
  · exact h
  · have h1 := cinv_sendData (i := i) (bufs := bufs) (h.frame (i := i)
      (f := fun c => { c with rx := if bo then { c.rx with continueSent := true } else c.rx.clear }) fun _ => rfl)
    exact .ite1 (fun _ => h.frame fun _ => rfl) fun _ =>
      .ite1 (fun _ => h1) fun _ => cinv_disconnect hf.pred h1

theorem cinv_httpSend {st : Int} {r hs body : Bytes} {ovl : Nat} (hf : Fuel a 8 fuel) (h : CInv a b w) :
    CInv a b (httpSend fuel w i st r hs body ovl).1 := by
  cases fuel <;> dsimp only [httpSend]
  · exact h
  · exact .ite1 (fun _ => h) fun _ => cinv_sendTail hf.pred
      (.ite (fun _ => .frame (h.frame fun _ => rfl) fun _ => rfl) fun _ => h.frame fun _ => rfl)

theorem cinv_sendResponse (hf : Fuel a 8 fuel) (h : CInv a b w) :
    CInv a b (httpSendResponse fuel w i).1 := by
  cases fuel <;> dsimp only [httpSendResponse]
  · exact h
  · exact cinv_sendTail hf.pred (h.frame fun _ => rfl)

/-! ### what a send does to its own connection -/

theorem sendData_get (w : World) (i : Nat) (bufs : List Buf) :
    (sendData w i bufs).1.get i =
      if (w.get i).transmitting = true ∨ (w.get i).connected = false then w.get i
      else { w.get i with transmitting := true, writes := (w.get i).writes ++ [bufs] } := by
  dsimp only [sendData]
  by_cases ht : (w.get i).transmitting = true
  · rw [if_pos ht, if_pos (Or.inl ht)]; rfl
  · by_cases hc : (w.get i).connected = true
    · rw [if_neg ht, if_pos hc, if_neg (by simp [ht, hc])]
      exact aux_get_upd_self (aux_lt_of_connected hc)
    · rw [if_neg ht, if_neg hc, if_pos (Or.inr (by simpa using hc))]

theorem sendTail_idle (fuel : Nat) (bufs : List Buf) (bo : Bool)
    (halive : (w.get i).alive = true) (hc : (w.get i).connected = true) (ht : (w.get i).transmitting = false) :
    let keep := (w.get i).rx.request.keepAlive || (Gen.continueKeepsOpen && bo)
    (httpSendTail (fuel + 2) w i bufs bo).2 = keep ∧
    (httpSendTail (fuel + 2) w i bufs bo).1.get i =
      { w.get i with rx := if bo then { (w.get i).rx with continueSent := true } else (w.get i).rx.clear,
                     transmitting := true, writes := (w.get i).writes ++ [bufs],
                     disconnectPending := (w.get i).disconnectPending || !keep } := by
  have hi := aux_lt_of_connected hc
  cases hk : ((w.get i).rx.request.keepAlive || (Gen.continueKeepsOpen && bo)) <;>
    simp [httpSendTail, sendData, disconnectConn, aux_get_upd_self, hi, halive, hc, ht, hk]

theorem httpSend_idle {c : Conn} (fuel : Nat) (st : Int) (reason hs body : Bytes) (ovl : Nat)
    (hv : headersValid hs = true) (hget : w.get i = c)
    (halive : c.alive = true) (hc : c.connected = true) (ht : c.transmitting = false) :
    let r := (httpSend (fuel + 3) w i st reason hs body ovl).1.get i
    r.txHeader = Enc.txResponseMessage (respVersion c).1 (respVersion c).2 st reason hs (if ovl == 0 then 0 else body.length) ∧
    r.writes = c.writes ++ [if ovl == 0 then [.hdr] else if c.rx.isHead then [.hdr] else if ovl == 1 then [.hdr, .body]
      else if body.isEmpty then [.hdr] else [.hdr, .lit body]] := by
  subst hget
  have hi := aux_lt_of_connected hc
  by_cases h1 : (ovl == 1 && !(w.get i).rx.isHead) = true <;>
    simp [httpSend, hv, h1, sendTail_idle, aux_get_upd_self, hi, halive, hc, ht]

/-! A response sent on a held (hence connected) connection never ends the session synchronously: the write is started
    (or one is already in flight), so the `disconnect()` that follows a non keep-alive response is deferred. -/

theorem sendTail_held (fuel : Nat) (bufs : List Buf) (bo : Bool)
    (hin : (w.get i).inHttp = true) (hcon : (w.get i).connected = true) :
    ((httpSendTail fuel w i bufs bo).1.get i).inHttp = true := by
  cases fuel <;> dsimp only [httpSendTail]
  · exact hin
  next n =>
  generalize hw1 : (w.upd i fun c => { c with rx := if bo then { c.rx with continueSent := true } else c.rx.clear }) = w1
  have hin1 : (w1.get i).inHttp = true := hw1 ▸ aux_get_upd_pres (fun c => c.inHttp = true) i (fun _ hc => hc) hin
  have hcon1 : (w1.get i).connected = true := hw1 ▸ aux_get_upd_pres (fun c => c.connected = true) i (fun _ hc => hc) hcon
  have hs := sendData_get w1 i bufs
  have hin2 : ((sendData w1 i bufs).1.get i).inHttp = true := by rw [hs]; split <;> exact hin1
  have ht2 : ((sendData w1 i bufs).1.get i).transmitting = true := by
    rw [hs]; split
    · next h => exact h.resolve_right (by simp [hcon1])
    · rfl
  refine iteInduction (motive := fun r : World × Bool => (r.1.get i).inHttp = true) (fun _ => hin1) fun _ =>
    iteInduction (motive := fun r : World × Bool => (r.1.get i).inHttp = true) (fun _ => hin2) fun _ => ?_
  cases n <;> simp only [disconnectConn, ht2, Bool.not_true, Bool.false_eq_true, ↓reduceIte]
  · exact hin2
  · exact aux_get_upd_pres (fun c => c.inHttp = true) i (fun _ hc => hc) hin2

theorem sendResponse_held (fuel : Nat) (hin : (w.get i).inHttp = true) (hcon : (w.get i).connected = true) :
    ((httpSendResponse fuel w i).1.get i).inHttp = true := by
  cases fuel <;> dsimp only [httpSendResponse]
  · exact hin
  · exact sendTail_held _ _ _ (aux_get_upd_pres (fun c => c.inHttp = true) i (fun _ hc => hc) hin)
      (aux_get_upd_pres (fun c => c.connected = true) i (fun _ hc => hc) hcon)

theorem cinv_appAnswer (hf : Fuel a 8 fuel) (h : CInv a b w) : CInv a b (appAnswer fuel w i) := by
  dsimp only [appAnswer]
  exact .ite (fun _ => cinv_httpSend hf h) fun _ => cinv_httpSend hf (h.frame fun _ => rfl)

theorem cinv_routeRequest (hf : Fuel a 8 fuel) (h : CInv a b w) : CInv a b (routeRequest fuel w i) := by
  dsimp only [routeRequest]
  split <;> exact cinv_httpSend hf h

theorem cinv_requestHandler (hf : Fuel a 8 fuel) (hin : a → (w.get i).inHttp = true) (h : CInv a b w) :
    CInv a b (requestHandler fuel w i) := by
  dsimp only [requestHandler]
  split
  · exact cinv_routeRequest hf h
  · have h1 : CInv a b { ((w.noteEvent i).emit s!"ev request {cn i} {reqFields (w.get i).rx}") with
        k := ((w.noteEvent i).emit s!"ev request {cn i} {reqFields (w.get i).rx}").k + 1 } := cinv_noteEvent h hin
    exact .ite (fun _ => .ite (fun _ => h1) fun _ => cinv_appAnswer hf h1) fun _ =>
      .ite (fun _ => cinv_disconnect hf.mono h1) fun _ => h1

theorem cinv_receiveLoop (hf : Fuel a 8 fuel) (n : Nat) :
    ∀ (w : World) (buf : Bytes), CInv a b w → CInv a b (receiveLoop fuel w i n buf) := by
  induction n with
  | zero => intro w buf h; exact h
  | succ n ih =>
    intro w buf h
    rw [receiveLoop]
    refine .ite (fun _ => h) fun hne => ?_
    have hin : (w.get i).inHttp = true := by
      simp only [Bool.or_eq_true, Bool.not_eq_true', not_or, Bool.not_eq_false] at hne
      exact hne.2
    -- `w1`: the world with the receiver's new state
    extract_lets _ cfg c p w1 rest invalidCase
    have h1 : CInv a b w1 := h.frame fun _ => rfl
    have hin1 : (w1.get i).inHttp = true := aux_get_upd_pres (fun c => c.inHttp = true) i (fun _ hc => hc) hin
    have hin2 : a → ((httpSendResponse fuel w1 i).1.get i).inHttp = true := fun ha =>
      sendResponse_held fuel hin1
        (aux_get_upd_pres (fun c => c.connected = true) i (fun _ hc => hc) ((h.life ha i).heldConn hin))
    have hn : CInv a b (w1.noteEvent i) := cinv_noteEvent h1 fun _ => hin1
    have hr : CInv a b (httpSendResponse fuel w1 i).1 := cinv_sendResponse hf h1
    have hq : CInv a b (requestHandler fuel w1 i) := cinv_requestHandler hf (fun _ => hin1) h1
    have hinv : CInv a b (invalidCase w1) :=
      .frame (.ite (fun _ => hn.emit _) fun _ => .ite (fun _ => cinv_disconnect hf.mono hr) fun _ => hr) fun _ => rfl
    split
    · -- valid (a TRACE request goes the invalid-request path when TRACE is not enabled)
      exact .ite (fun _ => ih _ _ (.ite (fun _ => hq.frame fun _ => rfl) fun _ => hq)) fun _ =>
        .ite (fun _ => ih _ _ (.frame (cinv_httpSend hf h1) fun _ => rfl)) fun _ => ih _ _ hinv
    · -- invalid
      exact hinv
    · -- expectContinue
      exact ih _ _ (.ite (fun _ => .ite (fun _ => cinv_httpSend hf (hn.emit _)) fun _ => hn.emit _)
        fun _ => .ite (fun _ => cinv_requestHandler hf hin2 hr) fun _ => hr)
    · -- chunk
      refine ih _ _ (.ite (fun _ => .frame ?_ fun _ => rfl) fun _ => ?_) <;>
        exact .ite (fun _ => .ite (fun _ => cinv_appAnswer hf (hn.emit _)) fun _ => hn.emit _) fun _ => h1
    · -- incomplete
      exact ih _ _ h1

theorem cinv_readCallback {err : Option Err} {data : Bytes} (h : CInv a b w) :
    CInv a b (readCallback w i err data) := by
  dsimp only [readCallback]
  refine .ite (fun _ => h) fun _ => ?_
  cases err with
  | some e => exact cinv_seod .top h
  | none =>
    suffices h1 : CInv a b _ from .ite (fun _ => cinv_enableReception h1) fun _ => h1
    exact .ite (fun _ => cinv_receiveLoop .top _ _ _ h) fun _ => h

def Conn.Connectable (c : Conn) : Prop :=
  c.connectedSeen = 0 ∧ c.hsStored = false ∧ (c.alive = true → c.inComms = true) ∧ c.connected = true

theorem cconn_connect {c : Conn} {rx : RR} (h : CConn a b c) (hal : c.alive = true) (hpre : a → c.Connectable) :
    CConn a b { c with httpAlive := true, inHttp := true, rx := rx, appKnows := true,
                       connectedSeen := c.connectedSeen + 1 } :=
  h.life (fun ha hl => by
    obtain ⟨h0, hs, hset, hcon⟩ := hpre ha
    have hd : c.disconnectedSeen = 0 := by have := hl.discAfter; omega
    refine { hl with seenOnce := ?_, discAfter := ?_, held := ?_, httpAlive := ?_, unseen := ?_, fresh := ?_,
                     heldConn := ?_ } <;> simp [h0, hd, hal, hs, hset hal, hcon]) id

theorem cinv_httpEvent0 (hf : Fuel a 7 fuel) (h : CInv a b w) (hpre : a → (w.get i).Connectable) :
    CInv a b (httpEvent fuel w i 0) := by
  cases fuel <;> simp only [httpEvent, BEq.rfl, ↓reduceIte]
  · exact h
  refine .ite (fun _ => h) fun hal => .ite (fun _ => h) fun _ => ?_
  suffices h1 : CInv a b _ from .ite (fun _ => cinv_disconnect hf.pred h1) fun _ => h1
  exact h.upd fun hc => cconn_connect hc (by simpa using hal) hpre

theorem cinv_commsEvent0 (hf : Fuel a 8 fuel) (h : CInv a b w) (hpre : a → (w.get i).Connectable) :
    CInv a b (commsEvent fuel w i 0) := by
  cases fuel <;> dsimp only [commsEvent]
  · exact h
  · exact cinv_httpEvent0 hf.pred h hpre

theorem cconn_connected {c : Conn} (h : CConn a b c) : CConn a b { c with connected := true } :=
  h.life (fun _ h => { h with heldConn := fun _ => rfl }) id

theorem cinv_handshake {ok : Bool} (h : CInv a b w) (hi : i < w.conns.length)
    (hpre : a → Conn.Connectable { w.get i with connected := true }) : CInv a b (handshakeCallback w i ok) := by
  dsimp only [handshakeCallback]
  refine .ite (fun _ => h) fun _ => .ite (fun _ => ?_) fun _ =>
    cinv_commsEvent 2 (by decide) .top (cinv_closeConn h)
  suffices h1 : CInv a b _ from .ite (fun _ => cinv_enableReception h1) fun _ => h1
  refine cinv_commsEvent0 .top (h.upd cconn_connected) fun ha => ?_
  rw [aux_get_upd_self hi]
  exact hpre ha

/-! ### collection of unowned objects -/

theorem cconn_httpDead {c : Conn} (h : CConn a b c) (hh : c.inHttp = false) : CConn a b { c with httpAlive := false } :=
  h.life (fun _ h => { h with held := fun h1 => absurd h1 (by simp [hh]), httpAlive := nofun }) id

theorem cconn_dead {c : Conn} (h : CConn a b c) (hc : c.inComms = false) :
    CConn a b { c with alive := false, httpAlive := false } := by
  refine h.life (fun _ h => ?_) id
  have hh : ¬ c.inHttp = true := fun hh => by rw [(h.held hh).2.2.1] at hc; cases hc
  exact { h with held := fun h1 => absurd h1 hh, commsAlive := fun h1 => absurd h1 (by simp [hc]), httpAlive := nofun }

theorem aux_get_closeConn_pres (P : Conn → Prop) (k : Nat)
    (hf : ∀ c, P c → P { dropPendingIo c with sockOpen := false, hsStored := false, shutStored := false })
    (h : P (w.get k)) : P ((closeConn w i).get k) := by
  dsimp only [closeConn]
  exact iteInduction (motive := fun w' : World => P (w'.get k)) (fun _ => h) fun _ => aux_get_upd_pres P k hf h

theorem cinv_gcOne (h : CInv a b w) : CInv a b (gcOne w i) := by
  dsimp only [gcOne]
  suffices h1 : CInv a b _ from .ite (fun hc => .upd (cinv_closeConn h1) fun hcc => cconn_dead hcc
    (aux_get_closeConn_pres (fun c => c.inComms = false) i (fun _ hc => hc)
      (by simpa using (Bool.and_eq_true_iff.1 hc).2))) fun _ => h1
  exact .ite (fun hc => cinv_closeConn (h.upd fun hcc => cconn_httpDead hcc
    (by simpa using (Bool.and_eq_true_iff.1 (Bool.and_eq_true_iff.1 hc).1).2))) fun _ => h

theorem cinv_gc (h : CInv a b w) : CInv a b (gc w) :=
  List.foldlRecOn (motive := CInv a b) _ gcOne h fun _ hw _ _ => cinv_gcOne hw

end

def Conn.Settled (c : Conn) : Prop := c.alive = true → c.inComms = true

section
variable {w : World} {i : Nat}

theorem gcOne_settled_pres (k : Nat) (h : (w.get k).Settled) : ((gcOne w i).get k).Settled := by
  dsimp only [gcOne]
  suffices h1 : (World.get _ k).Settled from iteInduction (motive := fun w' : World => (w'.get k).Settled)
    (fun _ => aux_get_upd_pres Conn.Settled k (fun _ _ hc => by cases hc)
      (aux_get_closeConn_pres Conn.Settled k (fun _ hc => hc) h1))
    fun _ => h1
  exact iteInduction (motive := fun w' : World => (w'.get k).Settled)
    (fun _ => aux_get_closeConn_pres Conn.Settled k (fun _ hc => hc) (aux_get_upd_pres Conn.Settled k (fun _ hc => hc) h))
    fun _ => h

theorem gcOne_settled_at (w : World) (i : Nat) : ((gcOne w i).get i).Settled := by
  dsimp only [gcOne]
  refine iteInduction (motive := fun w' : World => (w'.get i).Settled)
    (fun _ => aux_get_upd_est Conn.Settled (fun _ hc => by cases hc) fun _ => rfl) fun hc ha => ?_
  exact Decidable.byContradiction fun hn => hc (Bool.and_eq_true_iff.2 ⟨ha, by simpa using hn⟩)

theorem gc_fold (l : List Nat) : ∀ w : World,
    (∀ k, (w.get k).Settled → ((l.foldl gcOne w).get k).Settled) ∧
    (∀ k ∈ l, ((l.foldl gcOne w).get k).Settled) := by
  induction l with
  | nil => intro w; simp
  | cons j l ih =>
    intro w
    obtain ⟨i2, i3⟩ := ih (gcOne w j)
    simp only [List.foldl_cons]
    refine ⟨fun k hk => i2 k (gcOne_settled_pres k hk), fun k hk => ?_⟩
    rcases List.mem_cons.1 hk with rfl | hk
    · exact i2 _ (gcOne_settled_at w k)
    · exact i3 k hk

end

theorem gc_settled (w : World) : Settled (gc w) := by
  intro c hc
  obtain ⟨i2, i3⟩ := gc_fold (List.range w.conns.length) w
  obtain ⟨k, hk, rfl⟩ := List.mem_iff_getElem.1 hc
  have hget : (gc w).get k = (gc w).conns[k] := by simp [World.get, List.getD_eq_getElem?_getD, hk]
  rw [← hget]
  -- an index beyond `w.conns` holds the default connection, which is settled, before `gc` and so after it
  by_cases hk' : k < w.conns.length
  · exact i3 k (List.mem_range.2 hk')
  · exact i2 k (by rw [aux_get_oob (Nat.le_of_not_lt hk')]; exact fun _ => rfl)

section
variable {a b : Prop} {w : World} {i : Nat}

/-! ### the script operations

Between operations the world is also `Settled` (every operation ends in `gc`); the lifecycle half needs that when a
handshake completes. -/

def HInv (a b : Prop) (w : World) : Prop := CInv a b w ∧ (a → Settled w)

theorem hinv_gc (h : CInv a b w) : HInv a b (gc w) := ⟨cinv_gc h, fun _ => gc_settled w⟩

theorem HInv.conns {w' : World} (h : HInv a b w) (hc : w'.conns = w.conns) : HInv a b w' := by
  unfold HInv CInv Settled; rw [hc]; exact h

theorem HInv.ite {c : Prop} [Decidable c] {x y : World} (hx : c → HInv a b x) (hy : ¬c → HInv a b y) :
    HInv a b (if c then x else y) :=
  iteInduction hx hy

theorem Settled.get (h : Settled w) (i : Nat) : (w.get i).Settled := by
  rcases aux_get_mem_or w i with h1 | h1
  · exact h _ h1
  · rw [h1]; intro _; rfl

theorem HInv.frame {f : Conn → Conn} (h : HInv a b w) (hf : ∀ c, (f c).core = c.core) : HInv a b (w.upd i f) :=
  ⟨h.1.frame hf, fun ha c hc => by
    rcases aux_mem_upd hc with h1 | ⟨_, rfl⟩
    · exact h.2 ha c h1
    · -- `alive` and `inComms` are among the fields a frame leaves alone
      have e := hf (w.get i)
      simp only [Conn.core, Prod.mk.injEq] at e
      obtain ⟨-, -, -, -, -, -, ea, ec, -⟩ := e
      rw [ea, ec]
      exact (h.2 ha).get i⟩

theorem cconn_hsStored {c : Conn} (h : CConn a b c) (h0 : c.connectedSeen = 0) : CConn a b { c with hsStored := true } :=
  h.life (fun _ h => { h with fresh := fun _ => h0 }) id

theorem cconn_hsClear {c : Conn} (h : CConn a b c) : CConn a b { c with hsStored := false } :=
  h.life (fun _ h => { h with fresh := nofun }) id

theorem cconn_pop {c : Conn} {bufs : List Buf} {rest : List (List Buf)} (h : CConn a b c) (hw : c.writes = bufs :: rest) :
    CConn a b { c with writes := rest } ∧ (b → rest = []) := by
  have hr : WConn c → rest = [] := fun h => by
    have h1 := h.1
    rw [hw] at h1
    exact List.eq_nil_of_length_eq_zero (by simpa using h1)
  exact ⟨h.imp id fun h => by rw [hr h]; exact ⟨Nat.zero_le _, fun hne => absurd rfl hne, h.2.2⟩, fun hb => hr (h.2 hb)⟩

theorem live_writes {α} {live : Prop} [Decidable live] {l r : List α} {x : α} (h : (if live then l else []) = x :: r) :
    l = x :: r := by
  split at h
  · exact h
  · cases h

theorem cconn_shutClear {c : Conn} (h : CConn a b c) : CConn a b { c with shutStored := false } := by
  refine h.imp id fun h => ⟨h.1, h.2.1, ?_⟩; simp

theorem HInv.emit (h : HInv a b w) (s : String) : HInv a b (w.emit s) := h

theorem hinv_opCompletion {op arg : String} (h : HInv a b w) : HInv a b (opCompletion w op i arg) := by
  have he : ∀ s, HInv a b (w.emit s) := fun _ => h
  obtain ⟨hc, hs⟩ := h
  dsimp only [opCompletion, notPending]
  split
  · -- hs
    refine .ite (fun _ => he _) fun _ => .ite (fun _ => he _) fun hl => hinv_gc ?_
    simp only [Bool.not_eq_true', Bool.not_eq_false, Bool.and_eq_true, decide_eq_true_eq] at hl
    refine cinv_handshake (hc.upd cconn_hsClear) (by simpa using hl.1.1) fun ha => ?_
    rw [aux_get_upd_self hl.1.1]
    exact ⟨(hc.life ha i).fresh hl.2, rfl, (hs ha).get i, rfl⟩
  · -- read
    cases unhex arg <;> simp only []
    · exact he _
    · exact .ite (fun _ => he _) fun _ => .ite (fun _ => he _) fun _ =>
        hinv_gc (cinv_readCallback (hc.frame fun _ => rfl))
  · -- rderr
    cases parseErr arg <;> simp only []
    · exact he _
    · exact .ite (fun _ => he _) fun _ => hinv_gc (cinv_readCallback (hc.frame fun _ => rfl))
  · -- wdone
    split
    · exact he _
    · next bufs rest hw =>
      obtain ⟨hcc, hr⟩ := cconn_pop (hc.get i) (live_writes hw)
      exact hinv_gc (cinv_writeCallback .top
        (fun hb => Or.inl (aux_get_upd_est (fun c => c.writes = []) (fun _ => hr hb) rfl)) (.emit (hc.upd fun _ => hcc) _))
  · -- werr
    cases parseErr arg <;> simp only []
    · exact he _
    · split
      · exact he _
      · next rest hw =>
        exact hinv_gc (cinv_writeCallback_err .top (hc.upd fun _ => (cconn_pop (hc.get i) (live_writes hw)).1))
  · -- shutdone
    split
    · exact he _
    · refine .ite (fun _ => he _) fun hl => hinv_gc (cinv_writeCallback .top
        (fun hb => Or.inr (Or.inr ?_)) (hc.upd cconn_shutClear))
      simp only [Bool.not_eq_true', Bool.not_eq_false, Bool.and_eq_true, decide_eq_true_eq] at hl
      rw [aux_get_upd_self hl.1.1]
      exact ((hc.get i).2 hb).2.2 hl.2
  · -- late
    exact .ite (fun _ => he _) fun _ =>
      .ite (fun _ => .ite (fun _ => HInv.frame ⟨hc, hs⟩ fun _ => rfl) fun _ => he _) fun _ =>
        .ite (fun _ => HInv.frame ⟨hc, hs⟩ fun _ => rfl) fun _ => he _
  · exact he _

theorem hinv_opApp {op : String} {ws : List String} (h : HInv a b w) : HInv a b (opApp w op i ws) := by
  have he : ∀ s, HInv a b (w.emit s) := fun _ => h
  dsimp only [opApp]
  refine .ite (fun _ => he _) fun _ => ?_
  split
  · split
    · split
      · exact he _
      · exact hinv_gc (.emit (cinv_httpSend .top h.1) _)
    · exact he _
  · split
    · exact .ite (fun _ => he _) fun _ => hinv_gc (.emit (cinv_sendChunk h.1) _)
    · exact he _
  · split
    · exact hinv_gc (.emit (cinv_lastChunk h.1) _)
    · exact he _
  · exact hinv_gc (.emit (cinv_sendResponse .top h.1) _)
  · exact hinv_gc (.ite (fun _ => cinv_disconnect .top h.1) fun _ => h.1)
  · exact he _

theorem hinv_serverClose_gc (h : HInv a b w) : HInv a b (gc (serverClose FUEL w true)) :=
  hinv_gc (cinv_serverClose h.1 fun hb => by cases hb)

theorem hinv_opSrvShutdown (h : HInv a b w) : HInv a b (opSrvShutdown w) := by
  dsimp only [opSrvShutdown]
  exact .ite (fun _ => List.foldlRecOn (motive := HInv a b) _ _ (h.conns rfl) fun w' hw' j _ =>
      hinv_gc (.ite (fun _ => cinv_disconnect .top hw'.1) fun _ => hw'.1))
    fun _ => hinv_serverClose_gc h

theorem hinv_opAccept {ws : List String} (h : HInv a b w) : HInv a b (opAccept w ws) := by
  have he : ∀ s, HInv a b (w.emit s) := fun _ => h
  rw [opAccept]
  refine .ite (fun _ => he _) fun _ => .ite (fun _ => he _) fun _ => ?_
  -- `w1` has counted the filter call, `w2` holds the new connection `nc` at index `k`
  extract_lets n w1 accepted k hsFail nc w2 w3
  have h1 : HInv a b w1 := .ite (fun _ => h.conns rfl) fun _ => h
  refine .ite (fun _ => h1.emit _) fun _ => .emit (hinv_gc ?_) _
  have hget : w2.get k = nc := by simp [w2, k, World.get, List.getD_eq_getElem?_getD]
  have h2 : CInv a b w2 := fun c hc =>
    (List.mem_append.1 hc).elim (h1.1 c) fun hc => List.mem_singleton.1 hc ▸ cconn_default
  dsimp only [w3]
  split
  · exact cinv_handshake h2 (by simp [w2, k]) fun _ => hget ▸ ⟨rfl, rfl, fun _ => rfl, rfl⟩
  · exact h2.upd fun hc => cconn_hsStored hc (hget ▸ rfl)

theorem simOp_cases (Q : World → Prop) (w : World) (ws : List String)
    (hemit : ∀ s, Q (w.emit s)) (hacc : ∀ r, Q (opAccept w r)) (hcomp : ∀ op i arg, Q (opCompletion w op i arg))
    (happ : ∀ op i r, Q (opApp w op i r)) (hshut : Q (opSrvShutdown w)) (hclose : Q (gc (serverClose FUEL w true)))
    (hdestroy : Q { gc (serverClose FUEL w true) with haveServer := false })
    (hpoll : Q { w with acceptCancelled := false }) : Q (simOp w ws) := by
  unfold simOp opState
  repeat' split
  all_goals with_reducible first | exact hemit _ | exact hcomp _ _ _ | exact happ _ _ _ | exact hacc _ | assumption

theorem hinv_simOp (ws : List String) (h : HInv a b w) : HInv a b (simOp w ws) :=
  simOp_cases (HInv a b) w ws (fun _ => h) (fun _ => hinv_opAccept h) (fun _ _ _ => hinv_opCompletion h)
    (fun _ _ _ => hinv_opApp h) (hinv_opSrvShutdown h) (hinv_serverClose_gc h) ((hinv_serverClose_gc h).conns rfl)
    (h.conns rfl)

theorem hinv_mkServer (ws : List String) : HInv a b (mkServer ws) := by
  have : (mkServer ws).conns = [] := rfl
  constructor <;> intros <;> intro c hc <;> rw [this] at hc <;> cases hc

end

theorem hinv_aux {w : World} : HInv True False w ↔ InvS w :=
  ⟨fun h => ⟨cinv_aux.1 h.1, h.2 trivial⟩, fun h => ⟨cinv_aux.2 h.1, fun _ => h.2⟩⟩

theorem InvS_implies {w : World} (h : InvS w) : Inv w ∧ Settled w :=
  ⟨fun c hc => (h.1 c hc).1, h.2⟩

def HsFresh (w : World) : Prop := ∀ c ∈ w.conns, c.hsStored = true → c.connectedSeen = 0

def HeldConnected (w : World) : Prop := ∀ c ∈ w.conns, c.inHttp = true → c.connected = true

theorem InvS_iff (w : World) : InvS w ↔ Inv w ∧ Settled w ∧ HsFresh w ∧ HeldConnected w :=
  ⟨fun h => ⟨fun c hc => (h.1 c hc).1, h.2, fun c hc => (h.1 c hc).2.1, fun c hc => (h.1 c hc).2.2⟩,
   fun h => ⟨fun c hc => ⟨h.1 c hc, h.2.2.1 c hc, h.2.2.2 c hc⟩, h.2.1⟩⟩

theorem mkServer_invS (ws : List String) : InvS (mkServer ws) := hinv_aux.1 (hinv_mkServer ws)

theorem simOp_invS (w : World) (ws : List String) (h : InvS w) : InvS (simOp w ws) :=
  hinv_aux.1 (hinv_simOp ws (hinv_aux.2 h))

theorem mkServer_inv (ws : List String) : Inv (mkServer ws) ∧ Settled (mkServer ws) :=
  InvS_implies (mkServer_invS ws)

/-- Without `hh` the claim is false (`simOp_inv_original_false`); `hk` is what keeps a response sent from the receive
    loop from ending the session synchronously (`sendResponse_held`).  Both hold initially and are themselves
    preserved (`simOp_invS`), so they are available after every history (`history_invS`). -/
theorem simOp_inv (w : World) (ws : List String) (h : Inv w) (hs : Settled w) (hh : HsFresh w) (hk : HeldConnected w) :
    Inv (simOp w ws) ∧ Settled (simOp w ws) :=
  InvS_implies (simOp_invS w ws ((InvS_iff w).2 ⟨h, hs, hh, hk⟩))

theorem history_hinv (ws : List String) (hist : List (List String)) :
    HInv True True (hist.foldl simOp (mkServer ws)) :=
  List.foldlRecOn hist simOp (hinv_mkServer ws) fun _ hw l _ => hinv_simOp l hw

theorem history_invS (ws : List String) (hist : List (List String)) : InvS (hist.foldl simOp (mkServer ws)) :=
  ⟨(cinv_both.1 (history_hinv ws hist).1).1, (history_hinv ws hist).2 trivial⟩

theorem history_inv (ws : List String) (hist : List (List String)) :
    Inv (hist.foldl simOp (mkServer ws)) ∧ Settled (hist.foldl simOp (mkServer ws)) :=
  InvS_implies (history_invS ws hist)

theorem history_winv (serverOptions : List String) (history : List (List String)) :
    WInv (history.foldl simOp (mkServer serverOptions)) :=
  (cinv_both.1 (history_hinv serverOptions history).1).2

theorem winv_get {w : World} (h : WInv w) (i : Nat) : WConn (w.get i) := ((cinv_w.2 h).get i).2 trivial

theorem aux_invc_map {l : List Conn} (g : Conn → Conn) (hl : ∀ c ∈ l, aux_CIS c → aux_CIS (g c))
    (h : ∀ c ∈ l, aux_CIS c) : ∀ c ∈ l.map g, aux_CIS c :=
  List.forall_mem_map.2 fun c hc => hl c hc (h c hc)

theorem winv_map {w : World} {g : Conn → Conn} (hg : ∀ c, WConn c → WConn (g c)) (h : WInv w) :
    WInv { w with conns := w.conns.map g } :=
  List.forall_mem_map.2 fun c hc => hg c (h c hc)

@[simp] theorem aux_get_noteEvent_inHttp (w : World) (i k : Nat) : ((w.noteEvent i).get k).inHttp = (w.get k).inHttp := by
  unfold World.noteEvent
  exact aux_get_upd_pres (fun c => c.inHttp = (w.get k).inHttp) k (fun _ hc => hc) rfl

@[simp] theorem aux_opts_noteEvent (w : World) (i : Nat) : (w.noteEvent i).opts = w.opts := rfl

theorem mutual_inv (w : World) (i : Nat) (h : aux_InvC w) :
    aux_InvC (shutdownConn FUEL w i) ∧ aux_InvC (disconnectConn FUEL w i) ∧
    (∀ err, aux_InvC (writeCallback FUEL w i err)) ∧ (∀ e, aux_InvC (signalErrorOrDisconnect FUEL w i e)) ∧
    aux_InvC (commsEvent FUEL w i 1) ∧ aux_InvC (commsEvent FUEL w i 2) ∧
    (∀ ev, ev ≠ 0 → aux_InvC (httpEvent FUEL w i ev)) ∧ aux_InvC (serverClose FUEL w true) ∧
    (∀ bufs b, aux_InvC (httpSendTail FUEL w i bufs b).1) ∧
    (∀ st rs hs body ovl, aux_InvC (httpSend FUEL w i st rs hs body ovl).1) ∧
    aux_InvC (httpSendResponse FUEL w i).1 ∧ (∀ bufs, aux_InvC (httpSendPlain FUEL w i bufs).1) ∧
    (∀ d ext b, aux_InvC (httpSendChunk FUEL w i d ext b).1) ∧ (∀ ext tr, aux_InvC (httpLastChunk FUEL w i ext tr).1) := by
  have hc := cinv_aux.2 h
  exact ⟨cinv_aux.1 (cinv_shutdown .top hc), cinv_aux.1 (cinv_disconnect .top hc),
    fun _ => cinv_aux.1 (cinv_writeCallback .top False.elim hc),
    fun _ => cinv_aux.1 (cinv_seod .top hc),
    cinv_aux.1 (cinv_commsEvent 1 (by decide) .top hc),
    cinv_aux.1 (cinv_commsEvent 2 (by decide) .top hc),
    fun _ hev => cinv_aux.1 (cinv_httpEvent hev hc), cinv_aux.1 (cinv_serverClose hc fun hb => by cases hb),
    fun _ _ => cinv_aux.1 (cinv_sendTail .top hc),
    fun _ _ _ _ _ => cinv_aux.1 (cinv_httpSend .top hc),
    cinv_aux.1 (cinv_sendResponse .top hc), fun _ => cinv_aux.1 (cinv_sendPlain hc),
    fun _ _ _ => cinv_aux.1 (cinv_sendChunk hc), fun _ _ => cinv_aux.1 (cinv_lastChunk hc)⟩

structure Pres (fuel : Nat) : Prop where
  shutdown : ∀ w i, WInv w → WInv (shutdownConn fuel w i)
  disconnect : ∀ w i, WInv w → WInv (disconnectConn fuel w i)
  writeCb : ∀ w i err, WInv w → WcbPre w i err → WInv (writeCallback fuel w i err)
  seod : ∀ w i e, WInv w → WInv (signalErrorOrDisconnect fuel w i e)
  commsEv : ∀ w i ev, WInv w → WInv (commsEvent fuel w i ev)
  httpEv : ∀ w i ev, WInv w → WInv (httpEvent fuel w i ev)
  sendTail : ∀ w i bufs b, WInv w → WInv (httpSendTail fuel w i bufs b).1
  send : ∀ w i st r hs body ovl, WInv w → WInv (httpSend fuel w i st r hs body ovl).1
  sendResp : ∀ w i, WInv w → WInv (httpSendResponse fuel w i).1
  sendPlain : ∀ w i bufs, WInv w → WInv (httpSendPlain fuel w i bufs).1
  sendChunk : ∀ w i d ext b, WInv w → WInv (httpSendChunk fuel w i d ext b).1
  lastChunk : ∀ w i ext tr, WInv w → WInv (httpLastChunk fuel w i ext tr).1

theorem winv_of {w w' : World} (f : CInv False True w → CInv False True w') (h : WInv w) : WInv w' :=
  cinv_w.1 (f (cinv_w.2 h))

theorem pres_all (fuel : Nat) : Pres fuel where
  shutdown _ _ := winv_of (cinv_shutdown False.elim)
  disconnect _ _ := winv_of (cinv_disconnect False.elim)
  writeCb _ _ _ h hp := winv_of (cinv_writeCallback False.elim fun _ => hp) h
  seod _ _ _ := winv_of (cinv_seod False.elim)
  commsEv _ _ ev := by
    cases ev with
    | zero => exact winv_of fun h => cinv_commsEvent0 False.elim h False.elim
    | succ m => exact winv_of (cinv_commsEvent _ (Nat.succ_ne_zero m) False.elim)
  httpEv _ _ ev := by
    cases ev with
    | zero => exact winv_of fun h => cinv_httpEvent0 False.elim h False.elim
    | succ m => exact winv_of (cinv_httpEvent (Nat.succ_ne_zero m))
  sendTail _ _ _ _ := winv_of (cinv_sendTail False.elim)
  send _ _ _ _ _ _ _ := winv_of (cinv_httpSend False.elim)
  sendResp _ _ := winv_of (cinv_sendResponse False.elim)
  sendPlain _ _ _ := winv_of (cinv_sendPlain)
  sendChunk _ _ _ _ _ := winv_of (cinv_sendChunk)
  lastChunk _ _ _ _ := winv_of (cinv_lastChunk)

theorem winv_shutdown (fuel : Nat) {w : World} (i : Nat) (h : WInv w) : WInv (shutdownConn fuel w i) :=
  (pres_all fuel).shutdown w i h

/-- a world that satisfies `Inv` and `Settled` but is not reachable: a stored handshake completion on a
    connection whose session is already over.  Delivering it produces a second CONNECTED event. -/
def aux_cexWorld : World :=
  { opts := { flavour := .ssl }, haveServer := true, acceptorOpen := true,
    conns := [{ hsStored := true, connectedSeen := 1, disconnectedSeen := 1 }] }

/-- `simOp_inv` without `HsFresh` fails: the line `hs c0 ok` on `aux_cexWorld`
    (for any spelling `c` of the connection with `connIndex c = some 0`, e.g. `"c0"`) leaves `connectedSeen = 2` -/
theorem simOp_inv_original_false (c : String) (hc : connIndex c = some 0) :
    Inv aux_cexWorld ∧ Settled aux_cexWorld ∧ ¬ Inv (simOp aux_cexWorld ["hs", c, "ok"]) := by
  have e : simOp aux_cexWorld ["hs", c, "ok"] = opCompletion aux_cexWorld "hs" 0 "ok" := by simp [simOp, hc]
  rw [e]
  unfold Inv Settled ConnInv
  decide

end Via.Sim
