import ViaProofs.Frag.Compose
import ViaProofs.Rx.Stage
import ViaProofs.Rx.Req
import ViaProofs.Rx.Resp
/-
  C05 — arbitrary bytes never crash, corrupt memory, throw or hang the receivers.

  What is proved here, for EVERY byte string, every configuration and every receiver state:
  * totality / termination: every function of the model is a total Lean function (structural recursion
    or well-founded recursion with a checked measure — `MH.fresh`);
  * `receive_suffix`: a receive step returns a suffix of the buffer it was given: it never reads or
    consumes outside the buffer (`used ≤ |read|`);
  * `receive_progress`: from a state satisfying the reachable-state invariant `Ok`, a receive step on a
    non-empty buffer either reports INVALID or consumes at least one byte;
  * `ok_init`, `ok_step`: `Ok` holds initially and is preserved by `receive` followed by the server's /
    client's reaction (its second and third clause are there because `receive_progress` and `ok_step`
    fail for unreachable states without them);
  * `readLoop_done`: therefore the per-read loop of `http_server::receive_handler` and of
    `http_client::receive_handler` needs at most `|read|` calls of `receive`: with `|read| + 1` units
    of fuel it always ends because the buffer is exhausted or the message is INVALID, never because
    the fuel ran out.  (Before the repair of `response_receiver` this was false for the client.)
  Memory safety of the C++ itself is outside the model: it is observed by the sanitizer builds of the
  correspondence harness.
-/
namespace Via

namespace C05

/-! ### request receiver (server) -/

/-- `hbad`: neither receiver rejects this outcome of the chunk parser; then it succeeded or took the whole buffer -/
theorem CK_rest_lt (cfg : Cfg) (k : CK) (buf : Bytes) (hne : buf ≠ [])
    (hbad : (!(CK.parse cfg k buf).2.2 && (!(CK.parse cfg k buf).2.1.isEmpty || (CK.parse cfg k buf).1.fail)) = false) :
    (CK.parse cfg k buf).2.1.length < buf.length := by
  rcases Kept.of_not (fail := CK.fail) (Bool.eq_false_iff.mp hbad) with ht | ⟨hr, _⟩
  · exact CK.parse_true_lt cfg k buf ht
  · rw [hr]; exact List.length_pos_iff.mpr hne

theorem RR_body_facts (cfg : Cfg) (r : RR) (rp : Bool) (buf : Bytes) :
    (∃ pre, buf = pre ++ (RR.receiveBody cfg r rp buf).2.1) ∧
    (rp = false → (r.body.length : Int) < r.request.headers.contentLength → buf ≠ [] →
      (RR.receiveBody cfg r rp buf).2.2 = .invalid ∨ (RR.receiveBody cfg r rp buf).2.1.length < buf.length) ∧
    ((0 ≤ r.request.headers.contentLength → (r.body.length : Int) ≤ r.request.headers.contentLength) →
      (rp = true → r.body = []) →
      (RR.receiveBody cfg r rp buf).2.2 = .invalid ∨
      ((RR.receiveBody cfg r rp buf).1.request.valid = r.request.valid ∧
       (RR.receiveBody cfg r rp buf).1.request.headers = r.request.headers ∧
       ((RR.receiveBody cfg r rp buf).2.2 = .valid ∨
        ((RR.receiveBody cfg r rp buf).1.body.length : Int) < r.request.headers.contentLength))) := by
  by_cases hR : RR.Rejects cfg r buf
  · rw [RR.receiveBody_rejects cfg r rp buf hR]
    exact ⟨⟨[], rfl⟩, fun _ _ _ => Or.inl rfl, fun _ _ => Or.inl rfl⟩
  have h0 : 0 ≤ r.request.headers.contentLength := Int.not_lt.mp fun h => hR (Or.inr (Or.inl h))
  by_cases hE : RR.Expects r rp buf
  · rw [RR.receiveBody_expects cfg r rp buf hR hE]
    refine ⟨⟨[], rfl⟩, fun h => (by rw [hE.1] at h; cases h), fun _ hrp => Or.inr ⟨rfl, rfl, Or.inr ?_⟩⟩
    show ((r.body.length : Nat) : Int) < _
    rw [hrp hE.1]
    have := hE.2.1
    simp only [List.length_nil]; omega
  · rw [RR.receiveBody_accum cfg r rp buf hR hE]
    obtain ⟨a1, a2, _⟩ := RR.accum_facts cfg (RR.pre r) buf
    obtain ⟨t1, t2, t3⟩ := RR.accum_take cfg (RR.pre r) buf
    refine ⟨?_, fun _ hlt hne => Or.inr ?_, fun hle _ => Or.inr ⟨a1, a2, ?_⟩⟩
    · rw [t1]; exact takeBody_rest _ _ _
    · rw [t1]; exact takeBody_progress hlt hne
    · rcases t3 with h | h
      · exact Or.inl h
      · rw [t2]
        exact Or.inr ((takeBody_le _ _ buf (hle h0)).resolve_left (Bool.eq_false_iff.mp h))

theorem RR_chunkParse_facts (cfg : Cfg) (r : RR) (buf : Bytes) :
    (∃ pre, buf = pre ++ (RR.chunkParse cfg r buf).2.1) ∧
    ((RR.chunkParse cfg r buf).2.2 = .invalid ∨ (RR.chunkParse cfg r buf).1.request = r.request) ∧
    (buf ≠ [] → (RR.chunkParse cfg r buf).2.2 = .invalid ∨ (RR.chunkParse cfg r buf).2.1.length < buf.length) := by
  refine ⟨CK.parse_suffix cfg r.chunk buf, RR.chunkVerdict_frame cfg r _ _, fun hne => ?_⟩
  cases hbad : (!(CK.parse cfg r.chunk buf).2.2 &&
    (!(CK.parse cfg r.chunk buf).2.1.isEmpty || (CK.parse cfg r.chunk buf).1.fail))
  · exact Or.inr (CK_rest_lt cfg r.chunk buf hne hbad)
  · exact Or.inl (by simp only [RR.chunkParse, RR.chunkVerdict, hbad]; rfl)

theorem RR_chunk_facts (cfg : Cfg) (r : RR) (rp : Bool) (buf : Bytes) :
    (∃ pre, buf = pre ++ (RR.receiveChunk cfg r rp buf).2.1) ∧
    ((RR.receiveChunk cfg r rp buf).2.2 = .invalid ∨ (RR.receiveChunk cfg r rp buf).1.request = r.request) ∧
    (rp = false → buf ≠ [] → (RR.receiveChunk cfg r rp buf).2.2 = .invalid ∨
      (RR.receiveChunk cfg r rp buf).2.1.length < buf.length) := by
  have f1 := (RR.reset_facts r).1
  rw [RR.receiveChunk_eq]
  by_cases h1 : (rp && (r.request.expectContinue && !r.continueSent)) = true
  · rw [if_pos h1]
    exact ⟨⟨[], rfl⟩, Or.inr f1, fun h => by rw [h] at h1; cases h1⟩
  rw [if_neg h1]
  by_cases h2 : (rp && !cfg.concatChunks) = true
  · rw [if_pos h2]
    exact ⟨⟨[], rfl⟩, Or.inr f1, fun h => by rw [h] at h2; cases h2⟩
  rw [if_neg h2]
  obtain ⟨c1, c2, c3⟩ := RR_chunkParse_facts cfg (RR.reset r) buf
  exact ⟨c1, c2.imp id (fun h => h.trans f1), fun _ => c3⟩

theorem RR_afterHead_suffix (cfg : Cfg) (r : RR) (rp : Bool) (buf : Bytes) :
    ∃ pre, buf = pre ++ (RR.afterHead cfg r rp buf).2.1 := by
  cases hm : r.request.missingHost
  · cases hc : r.request.headers.isChunked
    · rw [RR.afterHead_body cfg r rp buf hm hc]; exact (RR_body_facts cfg r rp buf).1
    · rw [RR.afterHead_chunk cfg r rp buf hm hc]; exact (RR_chunk_facts cfg r rp buf).1
  · rw [RR.afterHead_noHost cfg r rp buf hm]; exact ⟨[], rfl⟩

theorem RR_afterHead_progress (cfg : Cfg) (r : RR) (buf : Bytes)
    (hok : r.request.headers.isChunked = false → (r.body.length : Int) < r.request.headers.contentLength)
    (hne : buf ≠ []) :
    (RR.afterHead cfg r false buf).2.2 = .invalid ∨ (RR.afterHead cfg r false buf).2.1.length < buf.length := by
  cases hm : r.request.missingHost
  · cases hc : r.request.headers.isChunked
    · rw [RR.afterHead_body cfg r false buf hm hc]; exact (RR_body_facts cfg r false buf).2.1 rfl (hok hc) hne
    · rw [RR.afterHead_chunk cfg r false buf hm hc]; exact (RR_chunk_facts cfg r false buf).2.2 rfl hne
  · rw [RR.afterHead_noHost cfg r false buf hm]; exact Or.inl rfl

end C05
open C05

theorem RR.receive_suffix (cfg : Cfg) (r : RR) (buf : Bytes) :
    ∃ pre, buf = pre ++ (RR.receive cfg r buf).2.1 := by
  obtain ⟨p1, hp1⟩ := RQ.parse_suffix cfg r.request buf
  rcases RR.receive_cases cfg r buf with ⟨_, e⟩ | ⟨_, _, e⟩ | ⟨_, _, e⟩ | ⟨_, _, _, e⟩ <;> rw [e]
  · exact RR_afterHead_suffix cfg r false buf
  · obtain ⟨p2, hp2⟩ := RR_afterHead_suffix cfg { r with request := (RQ.parse cfg r.request buf).1 } true
      (RQ.parse cfg r.request buf).2.1
    exact ⟨p1 ++ p2, by rw [List.append_assoc, ← hp2, ← hp1]⟩
  · exact ⟨p1, hp1⟩
  · exact ⟨buf, (List.append_nil buf).symm⟩

/-- reachable-state invariant of the request receiver:
    * while a request with a Content-Length body is being received the body is still incomplete;
    * the header block is marked complete only together with the whole request head (`rx_request::parse`
      sets both flags in the same step), so a `receive` call that completes the head consumes a byte;
    * no body bytes are stored before the request head is complete (`clear` empties the body). -/
def RR.Ok (r : RR) : Prop :=
  (r.request.valid = true → r.request.headers.isChunked = false →
    (r.body.length : Int) < r.request.headers.contentLength) ∧
  (r.request.headers.valid = true → r.request.valid = true) ∧
  (r.request.valid = false → r.body = [])

theorem RR.ok_init : RR.Ok {} := by
  refine ⟨?_, ?_, ?_⟩ <;> intro h <;> first | rfl | exact absurd h (by decide)

theorem RR.Ok.headers {r : RR} (hok : RR.Ok r) (hv : r.request.valid = false) : r.request.headers.valid = false :=
  Bool.eq_false_iff.mpr fun h => by rw [hok.2.1 h] at hv; cases hv

theorem RR.receive_progress (cfg : Cfg) (r : RR) (buf : Bytes) (hok : RR.Ok r) (hne : buf ≠ []) :
    (RR.receive cfg r buf).2.2 = .invalid ∨ (RR.receive cfg r buf).2.1.length < buf.length := by
  rcases RR.receive_cases cfg r buf with ⟨hv, e⟩ | ⟨hv, ht, e⟩ | ⟨_, _, e⟩ | ⟨_, _, _, e⟩ <;> rw [e]
  · exact RR_afterHead_progress cfg r buf (hok.1 hv) hne
  · have h1 := RQ.parse_true_lt cfg r.request buf (hok.headers hv) ht
    have h2 := length_le_of_suffix (RR_afterHead_suffix cfg { r with request := (RQ.parse cfg r.request buf).1 } true
      (RQ.parse cfg r.request buf).2.1)
    exact Or.inr (Nat.lt_of_le_of_lt h2 h1)
  · exact Or.inl rfl
  · exact Or.inr (List.length_pos_iff.mpr hne)

namespace C05

theorem RR_ok_clear (r : RR) : RR.Ok r.clear := by
  refine ⟨?_, ?_, ?_⟩ <;> intro h <;> first | rfl | exact absurd h (by simp [RR.clear])

theorem RR_ok_after (cfg : Cfg) (s : RR) (x : Rx) (h : RR.clears cfg s x = true ∨ RR.Ok s) :
    RR.Ok (RR.afterResult cfg s x) := by
  rw [RR.afterResult_eq]
  split
  · exact RR_ok_clear s
  · rename_i hc
    split <;> exact h.resolve_left hc

theorem RR_afterHead_ok (cfg : Cfg) (r : RR) (rp : Bool) (buf : Bytes) (hv : r.request.valid = true)
    (hle : r.request.headers.isChunked = false → 0 ≤ r.request.headers.contentLength →
      (r.body.length : Int) ≤ r.request.headers.contentLength)
    (hrp : rp = true → r.body = []) :
    RR.Ok (RR.afterResult cfg (RR.afterHead cfg r rp buf).1 (RR.afterHead cfg r rp buf).2.2) := by
  apply RR_ok_after
  cases hm : r.request.missingHost
  · cases hc : r.request.headers.isChunked
    · rw [RR.afterHead_body cfg r rp buf hm hc]
      rcases (RR_body_facts cfg r rp buf).2.2 (hle hc) hrp with h | ⟨h1, h2, h3 | h3⟩
      · exact Or.inl (by rw [h]; rfl)
      · exact Or.inl (by rw [h3]; simp [RR.clears, h2, hc])
      · refine Or.inr ⟨fun _ _ => by rw [h2]; exact h3, fun _ => by rw [h1]; exact hv, fun hf => ?_⟩
        rw [h1, hv] at hf; cases hf
    · rw [RR.afterHead_chunk cfg r rp buf hm hc]
      rcases (RR_chunk_facts cfg r rp buf).2.1 with h | h
      · exact Or.inl (by rw [h]; rfl)
      · refine Or.inr ⟨fun _ hf => ?_, fun _ => by rw [h]; exact hv, fun hf => ?_⟩
        · rw [h, hc] at hf; cases hf
        · rw [h, hv] at hf; cases hf
  · rw [RR.afterHead_noHost cfg r rp buf hm]; exact Or.inl rfl

end C05

theorem RR.ok_step (cfg : Cfg) (r : RR) (buf : Bytes) (hok : RR.Ok r) :
    RR.Ok (RR.afterResult cfg (RR.receive cfg r buf).1 (RR.receive cfg r buf).2.2) := by
  rcases RR.receive_cases cfg r buf with ⟨hv, e⟩ | ⟨hv, ht, e⟩ | ⟨_, _, e⟩ | ⟨hv, hf, _, e⟩ <;> rw [e]
  · exact RR_afterHead_ok cfg r false buf hv (fun hc _ => Int.le_of_lt (hok.1 hv hc)) (fun h => nomatch h)
  · refine RR_afterHead_ok cfg _ true _ (((RQ.laws cfg).flag r.request buf hv).trans ht) (fun _ h0 => ?_)
      (fun _ => hok.2.2 hv)
    show ((r.body.length : Nat) : Int) ≤ _
    rw [hok.2.2 hv]; exact h0
  · exact RR_ok_after cfg _ _ (Or.inl rfl)
  · refine RR_ok_after cfg _ _ (Or.inr ⟨fun h => ?_, fun h => ?_, fun _ => hok.2.2 hv⟩)
    · rw [(RQ.laws cfg).flag r.request buf hv, hf] at h; cases h
    · rw [RQ.parse_flags, hok.headers hv, hf] at h; cases h

theorem RR.lawful (cfg : Cfg) : (RR.rcv cfg).Lawful RR.Ok := ⟨RR.ok_step cfg, RR.receive_progress cfg⟩

theorem RR.readLoop_done (cfg : Cfg) (r : RR) (buf : Bytes) (hok : RR.Ok r) :
    let res := RR.readLoop cfg (buf.length + 1) r buf []
    (res.2.1 = [] ∨ (res.2.2.getLast?.map (·.rx)) = some .invalid) ∧ RR.Ok res.1 ∧
    res.2.2.length ≤ buf.length := by
  have h := (RR.lawful cfg).readLoop_done Delivery.mk (·.rx) (fun _ _ _ => rfl) (buf.length + 1) r buf [] hok
    (Nat.le_refl _)
  simpa [RR.readLoop_eq] using h

/-! ### response receiver (client) -/

namespace C05

theorem RS_chunkParse_facts (cfg : Cfg) (r : RS) (buf : Bytes) :
    (∃ pre, buf = pre ++ (RS.chunkParse cfg r buf).2.1) ∧
    ((RS.chunkParse cfg r buf).2.2 = .invalid ∨ (RS.chunkParse cfg r buf).1.response = r.response) ∧
    (buf ≠ [] → (RS.chunkParse cfg r buf).2.2 = .invalid ∨ (RS.chunkParse cfg r buf).2.1.length < buf.length) := by
  have hsuf := CK.parse_suffix cfg r.chunk buf
  unfold RS.chunkParse
  dsimp only
  cases hbad : (!(CK.parse cfg r.chunk buf).2.2 &&
    (!(CK.parse cfg r.chunk buf).2.1.isEmpty || (CK.parse cfg r.chunk buf).1.fail))
  · rw [if_neg Bool.false_ne_true]
    split
    all_goals exact ⟨hsuf, Or.inr rfl, fun hne => Or.inr (CK_rest_lt cfg r.chunk buf hne hbad)⟩
  · rw [if_pos rfl]
    exact ⟨hsuf, Or.inl rfl, fun _ => Or.inl rfl⟩

theorem RS_afterHead_suffix (cfg : Cfg) (r : RS) (rp : Bool) (buf : Bytes) :
    ∃ pre, buf = pre ++ (RS.afterHead cfg r rp buf).2.1 := by
  cases hc : r.response.headers.isChunked
  · by_cases hcl : r.response.headers.contentLength < 0
    · rw [RS.afterHead_neg cfg r rp buf hc hcl]; exact ⟨[], rfl⟩
    by_cases hL : RS.lengthless r = true ∧ buf ≠ []
    · rw [RS.afterHead_lengthless cfg r rp buf hc hL.1 hL.2]
      split
      · exact ⟨[], rfl⟩
      · exact ⟨buf, (List.append_nil buf).symm⟩
    · rw [RS.afterHead_accum cfg r rp buf hc hcl hL, C07.accum_eq]; exact takeBody_rest _ _ _
  · rw [RS.afterHead_chunked cfg r rp buf hc]
    split
    · exact ⟨[], rfl⟩
    · exact (RS_chunkParse_facts cfg _ buf).1

theorem RS_afterHead_progress (cfg : Cfg) (r : RS) (buf : Bytes)
    (hok : r.response.headers.isChunked = false → RS.lengthless r = false →
      (r.body.length : Int) < r.response.headers.contentLength)
    (hne : buf ≠ []) :
    (RS.afterHead cfg r false buf).2.2 = .invalid ∨ (RS.afterHead cfg r false buf).2.1.length < buf.length := by
  cases hc : r.response.headers.isChunked
  · by_cases hcl : r.response.headers.contentLength < 0
    · rw [RS.afterHead_neg cfg r false buf hc hcl]; exact Or.inl rfl
    cases hL : RS.lengthless r
    · rw [RS.afterHead_known cfg r false buf hc hcl hL, C07.accum_eq]
      exact Or.inr (takeBody_progress (hok hc hL) hne)
    · rw [RS.afterHead_lengthless cfg r false buf hc hL hne]
      split
      · exact Or.inl rfl
      · exact Or.inr (List.length_pos_iff.mpr hne)
  · rw [RS.afterHead_chunked cfg r false buf hc]
    exact (RS_chunkParse_facts cfg _ buf).2.2 hne

end C05
open C05

theorem RS.receive_suffix (cfg : Cfg) (r : RS) (buf : Bytes) :
    ∃ pre, buf = pre ++ (RS.receive cfg r buf).2.1 := by
  obtain ⟨p1, hp1⟩ := RP.parse_suffix cfg r.response buf
  rcases RS.receive_cases cfg r buf with ⟨_, e⟩ | ⟨_, _, e⟩ | ⟨_, _, e⟩ | ⟨_, _, _, e⟩ <;> rw [e]
  · exact RS_afterHead_suffix cfg r false buf
  · obtain ⟨p2, hp2⟩ := RS_afterHead_suffix cfg { r with response := (RP.parse cfg r.response buf).1 } true
      (RP.parse cfg r.response buf).2.1
    exact ⟨p1 ++ p2, by rw [List.append_assoc, ← hp2, ← hp1]⟩
  · exact ⟨p1, hp1⟩
  · exact ⟨buf, (List.append_nil buf).symm⟩

/-- reachable-state invariant of the response receiver:
    * while a response without chunked encoding is being received: with a Content-Length header the
      body is still incomplete; without one the stored body does not exceed `max_body_size`;
    * the header block is marked complete only together with the whole response head
      (`rx_response::parse` sets both flags in the same step), so a `receive` call that completes the
      head consumes a byte;
    * no body bytes are stored before the response head is complete (`clear` empties the body). -/
def RS.Ok (cfg : Cfg) (r : RS) : Prop :=
  (r.response.valid = true → r.response.headers.isChunked = false →
    ((r.response.headers.fields.find (b!"content-length")).isEmpty = false →
        (r.body.length : Int) < r.response.headers.contentLength) ∧
    ((r.response.headers.fields.find (b!"content-length")).isEmpty = true →
        r.body.length ≤ cfg.maxContent)) ∧
  (r.response.headers.valid = true → r.response.valid = true) ∧
  (r.response.valid = false → r.body = [])

theorem RS.ok_init (cfg : Cfg) : RS.Ok cfg {} := by
  refine ⟨?_, ?_, ?_⟩ <;> intro h <;> first | rfl | exact absurd h (by decide)

theorem RS.Ok.headers {cfg : Cfg} {r : RS} (hok : RS.Ok cfg r) (hv : r.response.valid = false) :
    r.response.headers.valid = false :=
  Bool.eq_false_iff.mpr fun h => by rw [hok.2.1 h] at hv; cases hv

theorem RS.receive_progress (cfg : Cfg) (r : RS) (buf : Bytes) (hok : RS.Ok cfg r) (hne : buf ≠ []) :
    (RS.receive cfg r buf).2.2 = .invalid ∨ (RS.receive cfg r buf).2.1.length < buf.length := by
  rcases RS.receive_cases cfg r buf with ⟨hv, e⟩ | ⟨hv, ht, e⟩ | ⟨_, _, e⟩ | ⟨_, _, _, e⟩ <;> rw [e]
  · exact RS_afterHead_progress cfg r buf (fun hc => (hok.1 hv hc).1) hne
  · have h1 := RP.parse_true_lt cfg r.response buf (hok.headers hv) ht
    have h2 := length_le_of_suffix (RS_afterHead_suffix cfg { r with response := (RP.parse cfg r.response buf).1 }
      true (RP.parse cfg r.response buf).2.1)
    exact Or.inr (Nat.lt_of_le_of_lt h2 h1)
  · exact Or.inl rfl
  · exact Or.inr (List.length_pos_iff.mpr hne)

namespace C05

theorem RS_ok_after (cfg : Cfg) (s : RS) (x : Rx) (h : RS.clears s x = true ∨ RS.Ok cfg s) :
    RS.Ok cfg (RS.afterResult s x) := by
  rw [RS.afterResult_eq]
  split
  · exact RS.ok_init cfg
  · rename_i hc
    exact h.resolve_left hc

theorem RS_ok_chunked (cfg : Cfg) (s : RS) (hv : s.response.valid = true)
    (hc : s.response.headers.isChunked = true) : RS.Ok cfg s :=
  ⟨fun _ hf => (by rw [hc] at hf; cases hf), fun _ => hv, fun hf => (by rw [hv] at hf; cases hf)⟩

theorem RS_afterHead_ok (cfg : Cfg) (r : RS) (rp : Bool) (buf : Bytes) (hv : r.response.valid = true)
    (hpres : r.response.headers.isChunked = false → RS.lengthless r = false →
      0 ≤ r.response.headers.contentLength → (r.body.length : Int) ≤ r.response.headers.contentLength)
    (habs : r.response.headers.isChunked = false → RS.lengthless r = true → r.body.length ≤ cfg.maxContent) :
    RS.Ok cfg (RS.afterResult (RS.afterHead cfg r rp buf).1 (RS.afterHead cfg r rp buf).2.2) := by
  apply RS_ok_after
  cases hc : r.response.headers.isChunked
  · by_cases hcl : r.response.headers.contentLength < 0
    · rw [RS.afterHead_neg cfg r rp buf hc hcl]; exact Or.inl rfl
    have stored : ∀ body : Bytes, (RS.lengthless r = false → (body.length : Int) < r.response.headers.contentLength) →
        (RS.lengthless r = true → body.length ≤ cfg.maxContent) → RS.Ok cfg { r with body := body } :=
      fun body h1 h2 => ⟨fun _ _ => ⟨h1, h2⟩, fun _ => hv, fun hf => (by rw [hv] at hf; cases hf)⟩
    by_cases hL : RS.lengthless r = true ∧ buf ≠ []
    · rw [RS.afterHead_lengthless cfg r rp buf hc hL.1 hL.2]
      split
      · exact Or.inl rfl
      · refine Or.inr (stored _ (fun h => by rw [hL.1] at h; cases h) fun _ => ?_)
        have := habs hc hL.1
        simp only [List.length_append]
        omega
    · rw [RS.afterHead_accum cfg r rp buf hc hcl hL, C07.accum_eq]
      cases ht : (takeBody r.response.headers.contentLength r.body buf).2.2
      · refine Or.inr (stored _ (fun h => ?_) fun h => ?_)
        · exact (takeBody_le _ _ buf (hpres hc h (by omega))).resolve_left (by rw [ht]; exact Bool.noConfusion)
        · have : buf = [] := Classical.byContradiction fun hne => hL ⟨h, hne⟩
          subst this
          simpa [takeBody] using habs hc h
      · exact Or.inl (by simp [RS.clears, hc])
  · have f1 := (RS.reset_facts r).1
    rw [RS.afterHead_chunked cfg r rp buf hc]
    split
    · exact Or.inr (RS_ok_chunked cfg _ (by rw [f1]; exact hv) (by rw [f1]; exact hc))
    · rcases (RS_chunkParse_facts cfg (RS.reset r) buf).2.1 with h | h
      · exact Or.inl (by rw [h]; rfl)
      · exact Or.inr (RS_ok_chunked cfg _ (by rw [h, f1]; exact hv) (by rw [h, f1]; exact hc))

end C05

theorem RS.ok_step (cfg : Cfg) (r : RS) (buf : Bytes) (hok : RS.Ok cfg r) :
    RS.Ok cfg (RS.afterResult (RS.receive cfg r buf).1 (RS.receive cfg r buf).2.2) := by
  rcases RS.receive_cases cfg r buf with ⟨hv, e⟩ | ⟨hv, ht, e⟩ | ⟨_, _, e⟩ | ⟨hv, hf, _, e⟩ <;> rw [e]
  · exact RS_afterHead_ok cfg r false buf hv (fun hc hp _ => Int.le_of_lt ((hok.1 hv hc).1 hp))
      (fun hc ha => (hok.1 hv hc).2 ha)
  · refine RS_afterHead_ok cfg _ true _ (((RP.laws cfg).flag r.response buf hv).trans ht) (fun _ _ h0 => ?_)
      (fun _ _ => ?_)
    · show ((r.body.length : Nat) : Int) ≤ _
      rw [hok.2.2 hv]; exact h0
    · show r.body.length ≤ _
      rw [hok.2.2 hv]; exact Nat.zero_le _
  · exact RS_ok_after cfg _ _ (Or.inl rfl)
  · refine RS_ok_after cfg _ _ (Or.inr ⟨fun h => ?_, fun h => ?_, fun _ => hok.2.2 hv⟩)
    · rw [(RP.laws cfg).flag r.response buf hv, hf] at h; cases h
    · rw [RP.parse_flags, hok.headers hv, hf] at h; cases h

theorem RS.lawful (cfg : Cfg) : (RS.rcv cfg).Lawful (RS.Ok cfg) := ⟨RS.ok_step cfg, RS.receive_progress cfg⟩

theorem RS.readLoop_done (cfg : Cfg) (r : RS) (buf : Bytes) (hok : RS.Ok cfg r) :
    let res := RS.readLoop cfg (buf.length + 1) r buf []
    (res.2.1 = [] ∨ (res.2.2.getLast?.map (·.rx)) = some .invalid) ∧ RS.Ok cfg res.1 ∧
    res.2.2.length ≤ buf.length := by
  have h := (RS.lawful cfg).readLoop_done RDelivery.mk (·.rx) (fun _ _ _ => rfl) (buf.length + 1) r buf [] hok
    (Nat.le_refl _)
  simpa [RS.readLoop_eq] using h

end Via
