import ViaProofs.ConnLemmas
/-
  C14 — HEAD responses carry the GET headers and never a body.

  `C14_head`: for every status, reason, header string, body and both body-carrying send overloads, the head written
  for a HEAD request is byte-for-byte the head written for the same response to GET (including the Content-Length
  of the body the GET response carries) and ONLY the head is handed to the adaptor.
  `C14_next_request`: `clear()` resets the flag, so the next request is unaffected.  That with HEAD translation the
  handler sees GET and the receiver remembers HEAD, and that without it the method is untouched, is part of the
  request round trip (`RT.receive_wire`, `RT.receivedRequest` in `Roundtrip.lean`).
  Known finding C14-KF1: a response issued after the handler returned has lost the flag.
-/
namespace Via
open Sim

theorem C14_head (fuel : Nat) (w : World) (i : Nat) (status : Int) (reason hs body : Bytes) (ovl : Nat)
    (hi : i < w.conns.length) (hovl : ovl = 1 ∨ ovl = 2) (hv : headersValid hs = true)
    (halive : (w.get i).alive = true) (hc : (w.get i).connected = true) (ht : (w.get i).transmitting = false) :
    let wHead := w.upd i fun c => { c with rx := { c.rx with isHead := true } }
    let wGet := w.upd i fun c => { c with rx := { c.rx with isHead := false } }
    ((httpSend (fuel + 3) wHead i status reason hs body ovl).1.get i).txHeader =
      ((httpSend (fuel + 3) wGet i status reason hs body ovl).1.get i).txHeader ∧
    ((httpSend (fuel + 3) wHead i status reason hs body ovl).1.get i).writes = (w.get i).writes ++ [[Buf.hdr]] := by
  intro wHead wGet
  have hH := httpSend_idle (w := wHead) fuel status reason hs body ovl hv (aux_get_upd_self hi) halive hc ht
  have hG := httpSend_idle (w := wGet) fuel status reason hs body ovl hv (aux_get_upd_self hi) halive hc ht
  refine ⟨hH.1.trans hG.1.symm, hH.2.trans ?_⟩
  cases (ovl == 0) <;> rfl

theorem C14_next_request (r : RR) : r.clear.isHead = false := rfl

end Via
