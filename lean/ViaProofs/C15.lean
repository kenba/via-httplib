import ViaModel.Conn
import ViaProofs.Rx.Req
/-
  C15 — Expect: 100-continue is answered before the server waits for the body.

  Decision logic of `request_receiver::receive` after the head has been parsed (∀ configuration, state, buffer):
  * `C15_body_expect`    Content-Length framing: when the head was completed by this call, the announced body has
                         not fully arrived, the request is HTTP/1.1+ with a 100-continue expectation and no interim
                         response has been sent yet, the result is EXPECT_CONTINUE with the proposed status 100
                         (this is the repaired behaviour: before, only chunked requests were answered);
  * `C15_chunk_expect`   chunked framing: the same, whatever has arrived;
  * `C15_at_most_once`   once `continue_sent_` is set no further EXPECT_CONTINUE is reported for the request;
  * `C15_not_for_http10` never for HTTP/1.0 or earlier;
  * `C15_reset`          `clear()` resets the flag between requests;
  * `C15_continue_keeps_connection`  sending the interim 100 Continue never starts a disconnect, whatever the
                         request said about keep-alive (`http_connection::send(buffers, is_continue = true)`; the
                         condition is extracted from the source as `Gen.continueKeepsOpen`).
-/
namespace Via

theorem C15_body_expect (cfg : Cfg) (r : RR) (buf : Bytes)
    (ht : r.request.isTrace = false)
    (hcl0 : 0 < r.request.headers.contentLength) (hcl1 : r.request.headers.contentLength ≤ (cfg.maxContent : Int))
    (hshort : (buf.length : Int) < r.request.headers.contentLength)
    (hexp : r.request.expectContinue = true) (hcs : r.continueSent = false) :
    RR.receiveBody cfg r true buf = ({ r with code := 100 }, buf, .expectContinue) := by
  have hrej : ¬ RR.Rejects cfg r buf := by
    simp only [RR.Rejects, ht, Bool.false_eq_true, false_and, false_or]
    omega
  exact RR.receiveBody_expects cfg r true buf hrej ⟨rfl, hshort, hexp, hcs⟩

theorem C15_chunk_expect (cfg : Cfg) (r : RR) (buf : Bytes)
    (hexp : r.request.expectContinue = true) (hcs : r.continueSent = false) :
    (RR.receiveChunk cfg r true buf).2.2 = .expectContinue ∧ (RR.receiveChunk cfg r true buf).2.1 = buf ∧
    (RR.receiveChunk cfg r true buf).1.code = 100 := by
  rw [RR.receiveChunk_eq, hexp, hcs]
  exact ⟨rfl, rfl, rfl⟩

theorem C15_at_most_once (cfg : Cfg) (r : RR) (p : Bool) (buf : Bytes) (hcs : r.continueSent = true) :
    (RR.receiveBody cfg r p buf).2.2 ≠ .expectContinue ∧ (RR.receiveChunk cfg r p buf).2.2 ≠ .expectContinue := by
  refine ⟨fun h => ?_, fun h => ?_⟩
  · have := (RR.expects_of_receiveBody cfg r p buf h).2.2.2
    rw [hcs] at this; cases this
  · have := (RR.expects_of_receiveChunk cfg r p buf h).2.2
    rw [hcs] at this; cases this

theorem C15_not_for_http10 (cfg : Cfg) (r : RR) (p : Bool) (buf : Bytes)
    (h10 : r.request.line.isHttp10OrEarlier = true) :
    (RR.receiveBody cfg r p buf).2.2 ≠ .expectContinue ∧ (RR.receiveChunk cfg r p buf).2.2 ≠ .expectContinue := by
  have he : r.request.expectContinue = false := by simp [RQ.expectContinue, h10]
  refine ⟨fun h => ?_, fun h => ?_⟩
  · have := (RR.expects_of_receiveBody cfg r p buf h).2.2.1
    rw [he] at this; cases this
  · have := (RR.expects_of_receiveChunk cfg r p buf h).2.1
    rw [he] at this; cases this

theorem C15_reset (r : RR) : r.clear.continueSent = false := rfl

/-- non-vacuity: a parsed request head with the expectation satisfies the hypotheses of `C15_body_expect` -/
example :
    let r : RR := { request := { line := { method := (b!"POST"), major := 49, minor := 49 },
                                 headers := { fields := [((b!"content-length"), (b!"3")), ((b!"expect"), (b!"100-continue"))] } } }
    r.request.isTrace = false ∧ 0 < r.request.headers.contentLength ∧
    r.request.headers.contentLength ≤ ((1048576 : Nat) : Int) ∧ r.request.expectContinue = true ∧
    r.continueSent = false := by decide

open Sim in
theorem C15_continue_keeps_connection (fuel : Nat) (w : World) (i : Nat) (bufs : List Buf) :
    httpSendTail (fuel + 1) w i bufs true =
      (let w' := w.upd i fun c => { c with rx := { c.rx with continueSent := true } }
       if !(w'.get i).alive then (w', false) else ((sendData w' i bufs).1, true)) := by
  simp [httpSendTail, Gen.continueKeepsOpen]

end Via
