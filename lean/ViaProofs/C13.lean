import ViaProofs.Statements
import ViaProofs.C08
import ViaProofs.Lemmas.ByteClass
/-
  C13 — application-supplied headers can never split a response.

  `are_headers_split` scans with a two-byte window; `splitLoop_iff_blank` relates the window to the line in progress, so
  `tx_response::is_valid` accepts exactly the header strings that are a sequence of non-empty, terminated lines
  (`NonEmptyLines`, `headersValid_iff`).  The response head is then a concatenation of such sequences (status line,
  header string, the library's own Content-Length line) followed by the final CRLF: `C13`.
-/
namespace Via

theorem splitLoop_iff_blank (s : Bytes) : ∀ (cur : Bytes) (prev pprev : Byte),
    (cur = [] ↔ prev = 10) → (cur = [13] ↔ prev = 13 ∧ pprev = 10) →
    (splitLoop prev pprev s = true ↔ blankLines cur s > 0) := by
  induction s with
  | nil => intro cur prev pprev _ _; simp [splitLoop, blankLines]
  | cons c cs ih =>
    intro cur prev pprev h1 h2
    -- the test on the window is the test on the line in progress
    have hB : (prev == 10 || (prev == 13 && pprev == 10)) = (cur == [] || cur == [13]) := by
      rw [Bool.eq_iff_iff]; simp [h1, h2]
    rw [splitLoop, blankLines, hB]
    by_cases hc : c = 10
    · subst hc
      cases cur == [] || cur == [13]
      · simpa using ih [] 10 prev (by simp) (by simp)
      · simp; omega
    · simpa [hc] using ih (c :: cur) c prev (by simp [hc]) (by simp [h1])

theorem areHeadersSplit_iff (h : Bytes) : areHeadersSplit h = true ↔ blankLines [] h > 0 :=
  splitLoop_iff_blank h [] 10 48 (by simp) (by simp)

theorem blankLines_line (s : Bytes) : ∀ cur : Bytes, 10 ∉ s →
    blankLines cur (s ++ [10]) = if (s.reverse ++ cur == [] || s.reverse ++ cur == [13]) then 1 else 0 := by
  induction s with
  | nil => intro cur _; rfl
  | cons c cs ih =>
    intro cur hs
    obtain ⟨hc, hcs⟩ := List.ne_and_not_mem_of_not_mem_cons hs
    rw [List.cons_append, blankLines, if_neg (by simpa using Ne.symm hc), ih (c :: cur) hcs,
      List.reverse_cons, List.append_assoc, List.singleton_append]

theorem blankLines_append (a : Bytes) : ∀ (cur b : Bytes),
    blankLines cur (a ++ 10 :: b) = blankLines cur (a ++ [10]) + blankLines [] b := by
  induction a with
  | nil => intro cur b; rfl
  | cons c cs ih =>
    intro cur b
    simp only [List.cons_append, blankLines]
    split
    · rw [ih, Nat.add_assoc]
    · rw [ih]

def NonEmptyLines (s : Bytes) : Prop := blankLines [] s = 0 ∧ (s = [] ∨ s.getLast? = some 10)

theorem NonEmptyLines.append {a b : Bytes} (ha : NonEmptyLines a) (hb : NonEmptyLines b) : NonEmptyLines (a ++ b) := by
  rcases ha.2 with rfl | hl
  · simpa using hb
  · obtain ⟨a', rfl⟩ := List.getLast?_eq_some_iff.1 hl
    refine ⟨by rw [List.append_assoc, List.singleton_append, blankLines_append, ha.1, hb.1], ?_⟩
    rcases hb.2 with rfl | hbl
    · simp
    · exact Or.inr (by rw [List.getLast?_append, hbl]; rfl)

theorem headersValid_iff (h : Bytes) : headersValid h = true ↔ NonEmptyLines h := by
  have := not_congr (areHeadersSplit_iff h)
  simp only [headersValid, NonEmptyLines, Bool.and_eq_true, Bool.not_eq_true', Bool.or_eq_true, List.isEmpty_iff,
    beq_iff_eq]
  rw [← Bool.not_eq_true, this, Nat.not_lt, Nat.le_zero]

theorem toDecString_noLF (n : Nat) : 10 ∉ toDecString n := fun h =>
  absurd (digit_not_eol_blank 10 ((C08.dec_digits n).2.1 10 h)).1 (by decide)

theorem intToDecString_noLF (i : Int) : 10 ∉ intToDecString i := by
  unfold intToDecString
  split
  · simp only [List.mem_cons, not_or]
    exact ⟨by decide, toDecString_noLF _⟩
  · exact toDecString_noLF _

theorem crlf_line (s : Bytes) (hne : s ≠ []) (hs : 10 ∉ s) : NonEmptyLines (s ++ Enc.crlf) := by
  have hcr : s ++ Enc.crlf = (s ++ [13]) ++ [10] := by simp [Enc.crlf, Gen.cCRLF]
  constructor
  · rw [hcr, blankLines_line _ _ (by simpa using hs)]
    simp [hne]
  · rw [hcr, List.getLast?_append]; simp

theorem responseLine_lines (maj min : Byte) (status : Int) (reason : Bytes)
    (hmaj : maj ≠ 10) (hmin : min ≠ 10) (hr : 10 ∉ reason) : NonEmptyLines (Enc.responseLine maj min status reason) :=
  crlf_line _ (by simp [Enc.httpVersion]) (by simp [Enc.httpVersion, hmaj.symm, hmin.symm, hr, intToDecString_noLF])

theorem contentLengthHeader_lines (n : Nat) : NonEmptyLines (Enc.contentLengthHeader n) :=
  crlf_line _ (by simp [Gen.cHEADER_CONTENT_LENGTH])
    (by simp [Gen.cHEADER_CONTENT_LENGTH, Gen.cSEPARATOR, toDecString_noLF])

theorem C13 : C13_statement := by
  intro maj min status reason h cl hmaj hmin hr hv
  have hopt : NonEmptyLines
      (if Enc.needsContentLength h && Enc.contentPermitted status then Enc.contentLengthHeader cl else []) := by
    split
    · exact contentLengthHeader_lines cl
    · exact ⟨rfl, Or.inl rfl⟩
  have hpre := ((responseLine_lines maj min status reason hmaj hmin hr).append ((headersValid_iff h).1 hv)).append hopt
  refine ⟨_, ?_, hpre.1, hpre.2.resolve_left ?_⟩
  · simp [Enc.txResponseMessage, Enc.crlf, Gen.cCRLF]
  · simp [Enc.responseLine, Enc.httpVersion]

theorem C13_refuse_when_blank : C13_refuse_statement := by
  intro h hyp
  refine Bool.eq_false_iff.2 fun hv => ?_
  obtain ⟨hb, hl⟩ := (headersValid_iff h).1 hv
  rcases hyp with h1 | ⟨hne, h2⟩
  · omega
  · exact hl.elim hne h2

/-- non-vacuity: an ordinary header block satisfies the hypotheses of `C13` -/
example : headersValid (b!"X-A: 1\r\nX-B: 2\r\n") = true ∧ (10 : Byte) ∉ (b!"OK") := by decide

example : headersValid (b!"\r\nX: 1\r\n") = false ∧ headersValid (b!"\nX: 1\r\n") = false ∧
          headersValid (b!"X: y") = false := by decide

end Via
