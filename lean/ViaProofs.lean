import ViaModel
import ViaProofs.Statements
import ViaProofs.Lemmas.Basic
import ViaProofs.Lemmas.ByteClass
import ViaProofs.Lemmas.Run
import ViaProofs.Frag.Scan
import ViaProofs.Frag.Defs
import ViaProofs.Frag.Laws
import ViaProofs.Frag.Crlf
import ViaProofs.Frag.Lines
import ViaProofs.Frag.Headers
import ViaProofs.Frag.Compose
import ViaProofs.Rx.Loop
import ViaProofs.Rx.Stage
import ViaProofs.Rx.Body
import ViaProofs.Rx.Req
import ViaProofs.Rx.Closed
import ViaProofs.Rx.Resp
import ViaProofs.C01
import ViaProofs.C02
import ViaProofs.C03
import ViaProofs.C04
import ViaProofs.C05
import ViaProofs.C06
import ViaProofs.C07
import ViaProofs.C08
import ViaProofs.Roundtrip
import ViaProofs.C09
import ViaProofs.C10
import ViaProofs.C11
import ViaProofs.C13
import ViaProofs.C14
import ViaProofs.C15
import ViaProofs.C16
import ViaProofs.C17
import ViaProofs.C18
import ViaProofs.C18Conc
import ViaProofs.C19
import ViaProofs.ConnLemmas
import ViaProofs.C12
import ViaProofs.C20
import ViaProofs.Trans.RL
import ViaProofs.Trans.SL
import ViaProofs.Trans.FL
import ViaProofs.Trans.CH
import ViaProofs.Trans.MH
import ViaProofs.Trans.CK
import ViaProofs.Trans.MHA
import ViaProofs.Trans.RQP
import ViaProofs.Trans.RQ
import ViaProofs.Trans.RR
import ViaProofs.Trans.RS
import ViaProofs.Trans.ENC
import ViaProofs.Trans.AU
import ViaProofs.Trans.RT
import ViaProofs.Trans.URI
import ViaProofs.Trans.EndToEnd
